import TangeloProofs.CycLaws
import TangeloModel.Clifford
/-!
The tables regenerated from the code (`C09.clifford_table_correct`, `C02.meas_basis_table_correct`) are checked by
kernel evaluation in `Cyc`, where a product is 64 products in ℚ whatever the factors. Multiplication by ζ, i, ½ and
1/√2 is a shift (`Cyc.shift`, in CycLaws) or a halving of the coefficients, so the products with the gate matrices and
the search for the phase ζⁿ need almost no rational arithmetic. Each definition below computes something of the model
that way and stands above the lemma that says so; a table check rewrites with these lemmas and then evaluates.
-/
namespace Tangelo
open Cyc

namespace Cyc

theorem zetaPowNat_mul (n : Nat) (z : Cyc) : zetaPowNat n * z = shift^[n] z := by
  rw [zetaPowNat_eq_pow]
  induction n generalizing z with
  | zero => rw [pow_zero, one_mul]; rfl
  | succ n ih => rw [pow_succ, mul_assoc, zeta_mul, ih, Function.iterate_succ_apply]

theorem I_mul (z : Cyc) : I * z = shift^[4] z := zetaPowNat_mul 4 z

theorem ofRat_mul (r : Rat) (z : Cyc) : ofRat r * z = smul r z := by
  simp only [cyc, smul, zero_mul, sub_zero, add_zero]

/-- `z/√2`, from `1/√2 = (ζ² − ζ⁶)/2` -/
def divSqrt2 (z : Cyc) : Cyc := smul (1/2) (shift^[2] z - shift^[6] z)

theorem mul_rsqrt2 (z : Cyc) : z * rsqrt2 = z.divSqrt2 := by
  simp only [cyc, rsqrt2, divSqrt2, smul, shift, Function.iterate_succ_apply, Function.iterate_zero_apply, mul_zero,
    sub_zero, add_zero, zero_add, zero_sub]
  ext <;> ring

end Cyc

/-- the matrices of the gate set at `nπ/4`, where `e` is a power of ζ (`Ang.e` multiplies through its six atoms
    whatever the angle); H, X, Y, Z and S have no `e` in them and stay as they are -/
def baseMatrixQ (b : Base) (n : Int) : M2 Cyc :=
  let c := smul (1/2) (zetaPow n + zetaPow (-n))
  let s := smul (1/2) (zetaPow (-n) + -zetaPow n)
  match b with
  | .RX => ⟨c, s, s, c⟩
  | .RY => ⟨c, -shift^[4] s, shift^[4] s, c⟩
  | .RZ => ⟨zetaPow (-n), 0, 0, zetaPow n⟩
  | .PHASE => ⟨1, 0, 0, zetaPow (n + n)⟩
  | .T => ⟨1, 0, 0, zetaPow 2⟩
  | b => baseMatrix cycConsts b 0

theorem baseMatrixQ_eq (b : Base) (n : Int) : baseMatrix cycConsts b (Ang.piQuarter n) = baseMatrixQ b n := by
  have he : ∀ m, cycConsts.e (Ang.piQuarter m) = zetaPow m := Ang.e_piQuarter
  cases b <;>
    simp only [baseMatrix, baseMatrixQ, Consts.cosH, Consts.misinH, Consts.sinH, Ang.neg_piQuarter, he, zetaPow_add] <;>
    simp only [cycConsts, half, ofRat_mul, I_mul]

namespace Clifford

/-- `r` times the matrix of a named gate, entry by entry -/
def mulNamed (r : M2 Cyc) : String → Option (M2 Cyc)
  | "H" => some ⟨r.a.divSqrt2 + r.b.divSqrt2, r.a.divSqrt2 - r.b.divSqrt2, r.c.divSqrt2 + r.d.divSqrt2,
      r.c.divSqrt2 - r.d.divSqrt2⟩
  | "X" => some ⟨r.b, r.a, r.d, r.c⟩
  | "Y" => some ⟨shift^[4] r.b, -shift^[4] r.a, shift^[4] r.d, -shift^[4] r.c⟩
  | "Z" => some ⟨r.a, -r.b, r.c, -r.d⟩
  | "S" => some ⟨r.a, shift^[4] r.b, r.c, shift^[4] r.d⟩
  | "SDAG" => some ⟨r.a, -shift^[4] r.b, r.c, -shift^[4] r.d⟩
  | _ => none

theorem mulNamed_eq (r : M2 Cyc) (g : String) : mulNamed r g = (namedMatrix g).bind fun m => some (m2mul r m) := by
  unfold namedMatrix mulNamed
  split <;>
    simp only [Option.bind_some, Option.bind_none, m2mul, M2.mul, baseMatrix, cycConsts, mul_zero, zero_add, add_zero,
      mul_one, mul_neg, ← sub_eq_add_neg, zero_sub, mul_comm _ I, I_mul, mul_rsqrt2]

theorem product_eq_foldr (l : List String) :
    product l = l.foldr (fun g acc => acc.bind (mulNamed · g)) (some M2.one) := by
  induction l with
  | nil => rfl
  | cons g gs ih =>
    rw [List.foldr_cons, ← ih]
    simp only [mulNamed_eq]
    exact Option.bind_comm ..

end Clifford
end Tangelo
