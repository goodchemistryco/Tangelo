import Lean.Meta.Tactic.Simp.RegisterCommand

/-- Unfolds the operations of `Cyc` to their eight rational components, after which an identity of `Cyc` is
eight polynomial identities over `ℚ`. The default simp set does the same many times dearer: it also tries to
normalise the polynomials. -/
register_simp_attr cyc
