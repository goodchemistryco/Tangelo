import TangeloModel.JW
import TangeloProofs.Lemmas.OpInverse
/-!
# C03 — fermion-to-qubit encodings are faithful representations (Jordan-Wigner proved; others by oracle)

The anticommutation relations are proved for the Fock-space operators `annihilate` / `create`; `jw_annihilate` /
`jw_create` say that the encoded words act on every amplitude as these do (the relations are not restated for the words).
-/
namespace Tangelo.C03
open Tangelo JW
variable {R : Type} [CommRing R]

theorem z_sem (k : Consts R) (q : Nat) (φ : State R) (x : Bits) :
    (Op.one .Z 0 q []).sem k φ x = (if x q then -1 else 1) * φ x := by
  rw [Op.sem_one_nil]; exact app1_Z k q φ x

theorem x_sem (k : Consts R) (q : Nat) (φ : State R) (x : Bits) :
    (Op.one .X 0 q []).sem k φ x = φ (x.set q (!x q)) := by
  rw [Op.sem_one_nil, app1_anti_apply _ q φ x rfl rfl]
  show (if x q then (1 : R) else 1) * _ = _
  rw [ite_self, one_mul]

theorem y_sem (k : Consts R) (q : Nat) (φ : State R) (x : Bits) :
    (Op.one .Y 0 q []).sem k φ x = (if x q then k.i else -k.i) * φ (x.set q (!x q)) := by
  rw [Op.sem_one_nil]; exact app1_anti_apply _ q φ x rfl rfl

theorem belowSign_succ (j : Nat) (x : Bits) : (belowSign (j + 1) x : R) = (if x j then -1 else 1) * belowSign j x := by
  simp only [belowSign, List.range_succ, List.foldl_append, List.foldl_cons, List.foldl_nil]
  split <;> simp

theorem belowSign_set (j q : Nat) (hq : j ≤ q) (x : Bits) (b : Bool) : (belowSign j (x.set q b) : R) = belowSign j x := by
  induction j with
  | zero => rfl
  | succ j ih => rw [belowSign_succ, belowSign_succ, ih (by omega), Bits.set_other _ _ _ _ (by omega)]

theorem zString_succ (j : Nat) : zString (j + 1) = zString j ++ [(j, 1)] := by
  simp [zString, List.range_succ]

theorem wordSem_append (k : Consts R) (a b : Key) (ψ : State R) : wordSem k (a ++ b) ψ = wordSem k b (wordSem k a ψ) := by
  simp [wordSem, semOps_append]

theorem zString_sem (k : Consts R) (j : Nat) (ψ : State R) (x : Bits) :
    wordSem k (zString j) ψ x = belowSign j x * ψ x := by
  induction j generalizing x with
  | zero => simp [zString, wordSem, semOps_nil, belowSign]
  | succ j ih =>
    rw [zString_succ, wordSem_append, belowSign_succ, mul_assoc, ← ih]
    exact z_sem k j _ x

theorem xz_word (k : Consts R) (j : Nat) (ψ : State R) (x : Bits) :
    wordSem k (zString j ++ [(j, 2)]) ψ x = belowSign j x * ψ (x.set j (!x j)) := by
  rw [wordSem_append]
  exact (x_sem k j _ x).trans (by rw [zString_sem, belowSign_set j j le_rfl])

theorem yz_word (k : Consts R) (j : Nat) (ψ : State R) (x : Bits) :
    wordSem k (zString j ++ [(j, 3)]) ψ x = (if x j then k.i else -k.i) * (belowSign j x * ψ (x.set j (!x j))) := by
  rw [wordSem_append]
  exact (y_sem k j _ x).trans (by rw [zString_sem, belowSign_set j j le_rfl])

/-- **annihilation**: ½·X_j Z…Z + (i/2)·Y_j Z…Z acts on amplitudes exactly as a_j acts on Fock space -/
theorem jw_annihilate (k : Consts R) (L : k.Laws) (j : Nat) (ψ : State R) (x : Bits) :
    k.half * wordSem k (zString j ++ [(j, 2)]) ψ x + (k.half * k.i) * wordSem k (zString j ++ [(j, 3)]) ψ x = annihilate j ψ x := by
  rw [xz_word, yz_word, annihilate]
  cases x j <;> simp only [Bool.false_eq_true, if_true, if_false, Bool.not_true, Bool.not_false]
  · linear_combination (belowSign j x * ψ (x.set j true)) * L.two_half - (k.half * belowSign j x * ψ (x.set j true)) * L.i_sq
  · linear_combination (k.half * belowSign j x * ψ (x.set j false)) * L.i_sq

/-- **creation**: ½·X_j Z…Z − (i/2)·Y_j Z…Z acts as a_j† -/
theorem jw_create (k : Consts R) (L : k.Laws) (j : Nat) (ψ : State R) (x : Bits) :
    k.half * wordSem k (zString j ++ [(j, 2)]) ψ x + (-(k.half * k.i)) * wordSem k (zString j ++ [(j, 3)]) ψ x = create j ψ x := by
  rw [xz_word, yz_word, create]
  cases x j <;> simp only [Bool.false_eq_true, if_true, if_false, Bool.not_true, Bool.not_false]
  · linear_combination (k.half * belowSign j x * ψ (x.set j true)) * L.i_sq
  · linear_combination (belowSign j x * ψ (x.set j false)) * L.two_half - (k.half * belowSign j x * ψ (x.set j false)) * L.i_sq

/-- the words and coefficients of `jw_annihilate` / `jw_create` are exactly what the model of the JW transform emits -/
theorem ladder_terms (j : Nat) :
    ladder j false = [(zString j ++ [(j, 2)], Cyc.half), (zString j ++ [(j, 3)], Cyc.half * Cyc.I)] ∧
    ladder j true = [(zString j ++ [(j, 2)], Cyc.half), (zString j ++ [(j, 3)], -(Cyc.half * Cyc.I))] := ⟨rfl, rfl⟩

theorem belowSign_sq (j : Nat) (x : Bits) : (belowSign j x : R) * belowSign j x = 1 := by
  induction j with
  | zero => simp [belowSign]
  | succ j ih => rw [belowSign_succ]; split <;> linear_combination ih

/-- `annihilate` (`b = true`) and `create` (`b = false`) in one -/
def ladderOp (b : Bool) (j : Nat) (ψ : State R) : State R :=
  fun x => if x j = b then 0 else belowSign j x * ψ (x.set j b)

theorem annihilate_eq (j : Nat) (ψ : State R) : annihilate j ψ = ladderOp true j ψ := rfl

theorem create_eq (j : Nat) (ψ : State R) : create j ψ = ladderOp false j ψ := by
  funext x; simp only [create, ladderOp]; cases x j <;> rfl

theorem ladderOp_not (b : Bool) (j : Nat) (ψ : State R) (x : Bits) :
    ladderOp (!b) j (ladderOp b j ψ) x = if x j = b then ψ x else 0 := by
  simp only [ladderOp, Bits.set_same, Bits.set_set, belowSign_set j j le_rfl, Bool.not_eq_self, if_false]
  -- `ladderOp b j` takes mode `j` from `b` to `!b` and `ladderOp (!b) j` takes it back: the sign is met twice
  by_cases h : x j = b
  · rw [if_pos h, if_neg (by simp [h]), ← h, Bits.set_self, ← mul_assoc, belowSign_sq, one_mul]
  · rw [if_neg h, if_pos (Bool.eq_not.mpr h)]

theorem create_annihilate (j : Nat) (ψ : State R) (x : Bits) :
    create j (annihilate j ψ) x = if x j then ψ x else 0 :=
  (congrFun (create_eq j _) x).trans (ladderOp_not true j ψ x)

theorem annihilate_create (j : Nat) (ψ : State R) (x : Bits) :
    annihilate j (create j ψ) x = if x j then 0 else ψ x := by
  rw [create_eq]
  exact (ladderOp_not false j ψ x).trans (by cases x j <;> rfl)

theorem car_same_mode (j : Nat) (ψ : State R) (x : Bits) :
    annihilate j (create j ψ) x + create j (annihilate j ψ) x = ψ x := by
  rw [annihilate_create, create_annihilate]
  split <;> simp

theorem nilpotent (j : Nat) (ψ : State R) (x : Bits) : annihilate j (annihilate j ψ) x = 0 ∧ create j (create j ψ) x = 0 := by
  -- the inner operator reads at mode `j` set to `b`, where it vanishes
  simp only [create_eq, annihilate_eq, ladderOp, Bits.set_same, if_true, mul_zero, ite_self, and_self]

theorem belowSign_flip_below (j i : Nat) (hi : i < j) (x : Bits) :
    (belowSign j (x.set i (!(x i))) : R) = -belowSign j x := by
  induction j with
  | zero => omega
  | succ j ih =>
    rw [belowSign_succ, belowSign_succ]
    rcases Nat.lt_succ_iff_lt_or_eq.mp hi with hlt | rfl
    · rw [ih hlt, Bits.set_other _ _ _ _ hlt.ne']; ring
    · rw [belowSign_set i i le_rfl, Bits.set_same]; cases x i <;> simp

theorem belowSign_set_below (j i : Nat) (hi : i < j) (x : Bits) (hx : x i = false) :
    (belowSign j (x.set i true) : R) = -belowSign j x := by
  simpa [hx] using belowSign_flip_below (R := R) j i hi x

theorem belowSign_unset_below (j i : Nat) (hi : i < j) (x : Bits) (hx : x i = true) :
    (belowSign j (x.set i false) : R) = -belowSign j x := by
  simpa [hx] using belowSign_flip_below (R := R) j i hi x

/-- both products vanish unless the modes `i`, `j` of `x` are `!b`, `!c`; then the two orders differ by the sign that
    changing mode `i` contributes to `belowSign j` -/
theorem ladderOp_anticomm (b c : Bool) (i j : Nat) (hij : i < j) (ψ : State R) (x : Bits) :
    ladderOp b i (ladderOp c j ψ) x + ladderOp c j (ladderOp b i ψ) x = 0 := by
  simp only [ladderOp, Bits.set_other _ _ _ _ hij.ne, Bits.set_other _ _ _ _ hij.ne']
  by_cases hi : x i = b <;> by_cases hj : x j = c <;> simp only [hi, hj, if_true, if_false, mul_zero, add_zero]
  obtain rfl : b = !x i := by cases b <;> simpa using hi
  rw [belowSign_flip_below j i hij x, belowSign_set i j hij.le, Bits.set_comm x i j _ _ hij.ne]
  ring

theorem car_annihilate_annihilate (i j : Nat) (hij : i < j) (ψ : State R) (x : Bits) :
    annihilate i (annihilate j ψ) x + annihilate j (annihilate i ψ) x = 0 :=
  ladderOp_anticomm true true i j hij ψ x

theorem car_create_create (i j : Nat) (hij : i < j) (ψ : State R) (x : Bits) :
    create i (create j ψ) x + create j (create i ψ) x = 0 := by
  simpa only [create_eq] using ladderOp_anticomm false false i j hij ψ x

theorem car_annihilate_create (i j : Nat) (hij : i < j) (ψ : State R) (x : Bits) :
    annihilate i (create j ψ) x + create j (annihilate i ψ) x = 0 ∧
    annihilate j (create i ψ) x + create i (annihilate j ψ) x = 0 := by
  simp only [create_eq, annihilate_eq]
  exact ⟨ladderOp_anticomm true false i j hij ψ x, (add_comm _ _).trans (ladderOp_anticomm false true i j hij ψ x)⟩

theorem upThenDown_lt (n i : Nat) (hn : n % 2 = 0) (hi : i < n) : upThenDown n i < n := by
  simp only [upThenDown, beq_iff_eq]
  split <;> omega

/-- with `upThenDown_lt`: `make_up_then_down` permutes the modes of a register of even size -/
theorem upThenDown_injective (n i i' : Nat) (hn : n % 2 = 0) (hi : i < n) (hi' : i' < n)
    (h : upThenDown n i = upThenDown n i') : i = i' := by
  simp only [upThenDown, beq_iff_eq] at h
  split at h <;> split at h <;> omega

example : ladder 2 false = [([(0, 1), (1, 1), (2, 2)], Cyc.half), ([(0, 1), (1, 1), (2, 3)], Cyc.half * Cyc.I)] := by decide +kernel
example : (List.range 6).map (upThenDown 6) = [0, 3, 1, 4, 2, 5] := by decide

end Tangelo.C03
