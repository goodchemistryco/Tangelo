import TangeloModel.Reduce
import TangeloProofs.Lemmas.SemBasic
import TangeloProofs.Lemmas.Isometry
import TangeloProofs.Lemmas.Commute
import TangeloProofs.Lemmas.ListSum
import Mathlib.Algebra.BigOperators.Ring.Finset
import Mathlib.Algebra.Order.Field.Basic
import Mathlib.Algebra.Module.Defs
import Mathlib.Tactic.Ring
import Mathlib.Tactic.Abel
import Mathlib.Tactic.NormNum
/-!
# C14 — qubit-reduction techniques keep the eigenvalue they are meant to keep

* trimming (`trim_trivial_qubits`): soundness of the classification table and of the term rule, on the
  register semantics of `TangeloModel.Sem` (every register size, every state);
* truncation (`frobenius_norm_compression`): the discarded coefficients stay inside the budget;
* tapering: the algebra of the Clifford rotation `U = (σ + τ)/√2` in an arbitrary ring.
-/
namespace Tangelo.C14
open Tangelo Tangelo.Reduce

section trim
variable {R : Type} [CommRing R]

/-- qubit `q` of `ψ` is in the basis state `b` -/
def HasBit (ψ : State R) (q : Nat) (b : Bool) : Prop := ∀ x : Bits, x q ≠ b → ψ x = 0

theorem app1_other (m : M2 R) (t q : Nat) (b : Bool) (ψ : State R) (h : t ≠ q) (hψ : HasBit ψ q b) :
    HasBit (app1 m t ψ) q b := by
  intro x hx
  rw [app1_apply, hψ x hx, hψ _ (by rwa [Bits.set_other _ _ _ _ (Ne.symm h)]), mul_zero, mul_zero, add_zero]

theorem app1_diag (m : M2 R) (q : Nat) (b : Bool) (ψ : State R) (hb : m.b = 0) (hc : m.c = 0) (hψ : HasBit ψ q b) :
    HasBit (app1 m q ψ) q b := by
  intro x hx
  rw [app1_diag_apply m q ψ x hb hc, hψ x hx, mul_zero]

theorem app1_anti (m : M2 R) (q : Nat) (b : Bool) (ψ : State R) (ha : m.a = 0) (hd : m.d = 0) (hψ : HasBit ψ q b) :
    HasBit (app1 m q ψ) q (!b) := by
  intro x hx
  rw [app1_anti_apply m q ψ x ha hd, hψ _ (fun e => hx (by rw [← e, Bits.set_same, Bool.not_not])), mul_zero]

/-- `f`: the identity, or conjugation -/
theorem HasBit.mul_eq_zero {ψ φ : State R} {q : Nat} {b : Bool} (h : HasBit ψ q b) (h' : HasBit φ q (!b)) (f : R → R)
    (hf : f 0 = 0) (x : Bits) : f (ψ x) * φ x = 0 := by
  by_cases hx : x q = b
  · rw [h' x (by rw [hx]; cases b <;> simp), mul_zero]
  · rw [h x hx, hf, zero_mul]

/-- a classified gate together with its meaning: angle for the rotations, an arbitrary matrix for
    names the classifier does not know -/
structure G (R : Type) where
  sg : SG
  θ : Ang
  other : M2 R

def G.mat (k : Consts R) (g : G R) : M2 R :=
  match g.sg.name with
  | .X => baseMatrix k .X g.θ
  | .Y => baseMatrix k .Y g.θ
  | .Z => baseMatrix k .Z g.θ
  | .RX => baseMatrix k .RX g.θ
  | .RY => baseMatrix k .RY g.θ
  | .RZ => baseMatrix k .RZ g.θ
  | .other => g.other

/-- assumption on the float test `is_bitflip_gate`: an RX it flags has cos(θ/2) = 0 -/
def G.sound (k : Consts R) (g : G R) : Prop := g.sg.name = .RX → g.sg.flip = true → k.cosH g.θ = 0

theorem isZ_diag (k : Consts R) (g : G R) (h : g.sg.isZ = true) : (g.mat k).b = 0 ∧ (g.mat k).c = 0 := by
  unfold SG.isZ at h
  unfold G.mat
  cases hn : g.sg.name <;> simp_all [baseMatrix]

theorem isXflip_anti (k : Consts R) (g : G R) (h : g.sg.isXflip = true) (hs : g.sound k) :
    (g.mat k).a = 0 ∧ (g.mat k).d = 0 := by
  unfold SG.isXflip at h
  unfold G.mat
  cases hn : g.sg.name <;> simp_all [baseMatrix, G.sound]

def stepBit (g : SG) (b : Bool) : Option Bool := if g.isZ then some b else if g.isXflip then some (!b) else none

def track : List SG → Bool → Option Bool
  | [], b => some b
  | g :: gs, b => (stepBit g b).bind (track gs)

theorem stepBit_sound (k : Consts R) (g : G R) (q : Nat) (ψ : State R) (b b' : Bool) (hs : g.sound k)
    (h : HasBit ψ q b) (hc : stepBit g.sg b = some b') : HasBit (app1 (g.mat k) q ψ) q b' := by
  unfold stepBit at hc
  split_ifs at hc with hz hx <;> cases hc
  · exact app1_diag _ q b ψ (isZ_diag k g hz).1 (isZ_diag k g hz).2 h
  · exact app1_anti _ q b ψ (isXflip_anti k g hx hs).1 (isXflip_anti k g hx hs).2 h

theorem track_sound (k : Consts R) (gs : List (G R)) (q : Nat) (ψ : State R) (b0 b : Bool)
    (hs : ∀ g ∈ gs, g.sound k) (h0 : HasBit ψ q b0) (hc : track (gs.map (·.sg)) b0 = some b) :
    HasBit (gs.foldl (fun acc g => app1 (g.mat k) q acc) ψ) q b := by
  induction gs generalizing ψ b0 with
  | nil => cases hc; exact h0
  | cons g gs ih =>
    obtain ⟨b1, h1, hc⟩ := Option.bind_eq_some_iff.mp hc
    exact ih _ b1 (fun g' h => hs g' (List.mem_cons_of_mem _ h))
      (stepBit_sound k g q ψ b0 b1 (hs g List.mem_cons_self) h0 h1) hc

theorem isZ_not_isXflip (g : SG) (h : g.isZ = true) : g.isXflip = false := by
  obtain ⟨name, flip⟩ := g
  cases name <;> simp_all [SG.isZ, SG.isXflip]

/-- the table of `trim_trivial_circuit` (lists of at most two gates) never claims more than tracking does -/
theorem classify_track : ∀ (gs : List SG) (b : Bool), classify gs = some b → track gs false = some b
  | [], _, h => h
  | [g0], b, h => by simpa [track, stepBit, classify] using h
  | [g0, g1], b, h => by
    -- the combinations of (Z-like / flagged X-like / neither) for the two gates, the second gate first as in the table
    simp only [classify] at h
    simp only [track, stepBit]
    by_cases hz1 : g1.isZ
    · by_cases hz0 : g0.isZ <;> simp_all
    · by_cases hx1 : g1.isXflip
      · by_cases hz0 : g0.isZ
        · have := isZ_not_isXflip g0 hz0; simp_all
        · by_cases hx0 : g0.isXflip <;> simp_all
      · simp_all
  | _ :: _ :: _ :: _, _, h => by simp [classify] at h

/-- **classification soundness**: a qubit that starts in |0⟩ and is declared to end in |b⟩ does end in |b⟩ (up to a phase) -/
theorem classify_sound (k : Consts R) (gs : List (G R)) (q : Nat) (ψ : State R) (b : Bool)
    (hs : ∀ g ∈ gs, g.sound k) (h0 : HasBit ψ q false) (hc : classify (gs.map (·.sg)) = some b) :
    HasBit (gs.foldl (fun acc g => app1 (g.mat k) q acc) ψ) q b :=
  track_sound k gs q ψ false b hs h0 (classify_track _ b hc)

/-- the bit-flip flag of the first gate matters: RX(0)·X leaves |1⟩, and the table keeps that qubit -/
example : classify [⟨.RX, false⟩, ⟨.X, true⟩] = none := by decide

/-- Pauli strings in the form `trim_trivial_operator` works on: one letter per qubit, the position is the qubit, so that
    blanking and deleting a position can be stated (`wordOps` of `Lemmas/PauliWords` is the sparse form, on (qubit, letter)
    pairs) -/
def letterMat (k : Consts R) : Letter → M2 R
  | .I => M2.one
  | .X => baseMatrix k .X 0
  | .Y => baseMatrix k .Y 0
  | .Z => baseMatrix k .Z 0

/-- the first letter acts on qubit `p` -/
def appWordFrom (k : Consts R) : Nat → List Letter → State R → State R
  | _, [], ψ => ψ
  | p, l :: ls, ψ => appWordFrom k (p + 1) ls (app1 (letterMat k l) p ψ)

def appWord (k : Consts R) (w : List Letter) (ψ : State R) : State R := appWordFrom k 0 w ψ

def flipsAt (w : List Letter) (i : Nat) : Bool :=
  match w[i]? with
  | some .X => true
  | some .Y => true
  | _ => false

theorem letter_shape (k : Consts R) (l : Letter) :
    ((l = .X ∨ l = .Y) → (letterMat k l).a = 0 ∧ (letterMat k l).d = 0) ∧
    ((l = .I ∨ l = .Z) → (letterMat k l).b = 0 ∧ (letterMat k l).c = 0) := by
  cases l <;> simp [letterMat, baseMatrix, M2.one]

theorem appWordFrom_below (k : Consts R) (p : Nat) (w : List Letter) (ψ : State R) (q : Nat) (b : Bool)
    (hq : q < p) (h : HasBit ψ q b) : HasBit (appWordFrom k p w ψ) q b := by
  induction w generalizing p ψ with
  | nil => exact h
  | cons l ls ih =>
    simp only [appWordFrom]
    exact ih (p + 1) _ (by omega) (app1_other _ p q b ψ (by omega) h)

theorem appWordFrom_hasBit (k : Consts R) (p : Nat) (w : List Letter) (ψ : State R) (q : Nat) (b : Bool)
    (hq : p ≤ q) (h : HasBit ψ q b) : HasBit (appWordFrom k p w ψ) q (b ^^ flipsAt w (q - p)) := by
  induction w generalizing p ψ with
  | nil => exact (Bool.xor_false b).symm ▸ h
  | cons l ls ih =>
    rcases Nat.eq_or_lt_of_le hq with rfl | hlt
    · -- the letter on qubit `q` keeps or flips the bit, the later letters act on other qubits
      rw [Nat.sub_self]
      refine appWordFrom_below k (p + 1) ls _ p _ (Nat.lt_succ_self p) ?_
      cases l
      · exact (Bool.xor_false b).symm ▸ app1_diag _ p b ψ rfl rfl h
      · exact (Bool.xor_true b).symm ▸ app1_anti _ p b ψ rfl rfl h
      · exact (Bool.xor_true b).symm ▸ app1_anti _ p b ψ rfl rfl h
      · exact (Bool.xor_false b).symm ▸ app1_diag _ p b ψ rfl rfl h
    · rw [show q - p = q - (p + 1) + 1 by omega]
      exact ih (p + 1) _ hlt (app1_other _ p q b ψ hlt.ne h)

theorem appWord_flip_hasBit (k : Consts R) (w : List Letter) (ψ : State R) (q : Nat) (b : Bool)
    (h : HasBit ψ q b) (hf : flipsAt w q = true) : HasBit (appWord k w ψ) q (!b) := by
  simpa only [appWord, Nat.sub_zero, hf, Bool.xor_true] using appWordFrom_hasBit k 0 w ψ q b (Nat.zero_le _) h

/-- **X or Y on a trimmed qubit**: the term contributes nothing — pointwise, hence for any inner product -/
theorem word_xy_zero (k : Consts R) (w : List Letter) (ψ : State R) (q : Nat) (b : Bool)
    (h : HasBit ψ q b) (hf : flipsAt w q = true) (x : Bits) : ψ x * appWord k w ψ x = 0 :=
  h.mul_eq_zero (appWord_flip_hasBit k w ψ q b h hf) id rfl x

theorem app1_smul (m : M2 R) (t : Nat) (c : R) (ψ : State R) :
    app1 m t (fun x => c * ψ x) = fun x => c * app1 m t ψ x :=
  (actsOn_app1 m t).smul c ψ

theorem appWordFrom_smul (k : Consts R) (p : Nat) (w : List Letter) (c : R) (ψ : State R) :
    appWordFrom k p w (fun x => c * ψ x) = fun x => c * appWordFrom k p w ψ x := by
  induction w generalizing p ψ with
  | nil => rfl
  | cons l ls ih => simp only [appWordFrom]; rw [app1_smul, ih]

def zSign (b : Bool) : R := if b then -1 else 1

theorem app1_Z_hasBit (k : Consts R) (q : Nat) (b : Bool) (ψ : State R) (h : HasBit ψ q b) :
    app1 (letterMat k .Z) q ψ = fun x => zSign b * ψ x := by
  funext x
  rw [show letterMat k .Z = baseMatrix k .Z 0 from rfl, app1_Z]
  by_cases hx : x q = b
  · rw [hx]; rfl
  · rw [h x hx, mul_zero, mul_zero]

theorem word_z_from (k : Consts R) (p : Nat) (w : List Letter) (ψ : State R) (q : Nat) (b : Bool)
    (hq : p ≤ q) (h : HasBit ψ q b) (hz : w[q - p]? = some .Z) :
    appWordFrom k p w ψ = fun x => zSign b * appWordFrom k p (w.set (q - p) .I) ψ x := by
  induction w generalizing p ψ with
  | nil => simp at hz
  | cons l ls ih =>
    rcases Nat.eq_or_lt_of_le hq with rfl | hlt
    · rw [Nat.sub_self] at hz ⊢
      cases hz
      rw [List.set_cons_zero, appWordFrom, appWordFrom, app1_Z_hasBit k p b ψ h, appWordFrom_smul,
        show app1 (letterMat k .I) p ψ = ψ from app1_one p ψ]
    · rw [show q - p = q - (p + 1) + 1 by omega] at hz ⊢
      exact ih (p + 1) _ hlt (app1_other _ p q b ψ hlt.ne h) hz

/-- **Z on a trimmed qubit**: the word acts as (−1)^b times the word with that letter removed -/
theorem word_z_sign (k : Consts R) (w : List Letter) (ψ : State R) (q : Nat) (b : Bool)
    (h : HasBit ψ q b) (hz : w[q]? = some .Z) :
    appWord k w ψ = fun x => zSign b * appWord k (w.set q .I) ψ x :=
  word_z_from k 0 w ψ q b (Nat.zero_le _) h hz

/-- the term rule for one trimmed qubit agrees with `word_xy_zero` and `word_z_sign` -/
theorem trimTerm_single (term : List Letter) (q : Nat) (b : Bool) :
    trimTerm term [(q, b)] false =
      match term[q]? with
      | some .X => none
      | some .Y => none
      | some .Z => some (if b then -1 else 1, term.set q .I)
      | _ => some (1, term.set q .I) := by
  unfold trimTerm
  simp only [trimTermFrom]
  cases hl : term[q]? with
  | none => simp
  | some l => cases l <;> cases b <;> simp

theorem trimTerm_single_reindex (term : List Letter) (q : Nat) (b : Bool) :
    trimTerm term [(q, b)] true =
      match term[q]? with
      | some .X => none
      | some .Y => none
      | some .Z => some (if b then -1 else 1, term.eraseIdx q)
      | _ => some (1, term.eraseIdx q) := by
  unfold trimTerm
  simp only [trimTermFrom]
  cases hl : term[q]? with
  | none => simp
  | some l => cases l <;> cases b <;> simp

end trim

section trimexpect
open Finset
variable {S : Type} [CommRing S] [StarRing S]

/-- ⟨ψ| P_w |ψ⟩ on an n-qubit register (`inner n ψ (appWord k w ψ)` of `Lemmas/Isometry`, written out) -/
def expectW (k : Consts S) (n : Nat) (ψ : State S) (w : List Letter) : S :=
  ∑ i ∈ range (2 ^ n), star (ψ (bitsOf i)) * appWord k w ψ (bitsOf i)

theorem expect_xy_zero (k : Consts S) (n : Nat) (w : List Letter) (ψ : State S) (q : Nat) (b : Bool)
    (h : HasBit ψ q b) (hf : flipsAt w q = true) : expectW k n ψ w = 0 :=
  Finset.sum_eq_zero fun i _ => h.mul_eq_zero (appWord_flip_hasBit k w ψ q b h hf) star (star_zero S) (bitsOf i)

theorem expect_z_sign (k : Consts S) (n : Nat) (w : List Letter) (ψ : State S) (q : Nat) (b : Bool)
    (h : HasBit ψ q b) (hz : w[q]? = some .Z) : expectW k n ψ w = zSign b * expectW k n ψ (w.set q .I) := by
  rw [expectW, word_z_sign k w ψ q b h hz, expectW, Finset.mul_sum]
  exact Finset.sum_congr rfl fun i _ => mul_left_comm _ _ _

theorem set_same (w : List Letter) (q : Nat) (h : w[q]? = some .I ∨ w[q]? = none) : w.set q .I = w := by
  rcases h with h | h
  · obtain ⟨hlt, e⟩ := List.getElem?_eq_some_iff.mp h
    rw [← e, List.set_getElem_self]
  · exact List.set_eq_of_length_le (List.getElem?_eq_none_iff.mp h)

/-- one round of the loop of `trim_trivial_operator` -/
theorem trimTermFrom_cons (term : List Letter) (reindex : Bool) (i q : Nat) (b : Bool) (rest : List (Nat × Bool))
    (sign : Int) (new : List Letter) :
    trimTermFrom term reindex i ((q, b) :: rest) sign new =
      if flipsAt term q then none
      else trimTermFrom term reindex (i + 1) rest (if term[q]? = some .Z && b then -sign else sign)
        (if reindex then new.eraseIdx (q - i) else new.set q .I) := by
  obtain ⟨o, ho⟩ : ∃ o, term[q]? = o := ⟨_, rfl⟩
  simp only [trimTermFrom, flipsAt, ho]
  rcases o with _ | l
  · rfl
  · cases l <;> rfl

theorem expect_set_I (k : Consts S) (n : Nat) (w : List Letter) (ψ : State S) (q : Nat) (b : Bool)
    (h : HasBit ψ q b) (hf : flipsAt w q = false) :
    expectW k n ψ w = ((if w[q]? = some .Z && b then -1 else 1 : Int) : S) * expectW k n ψ (w.set q .I) := by
  cases hl : w[q]? with
  | none => rw [set_same w q (Or.inr hl)]; simp
  | some l =>
    cases l with
    | I => rw [set_same w q (Or.inl hl)]; simp
    | Z => rw [expect_z_sign k n w ψ q b h hl]; cases b <;> simp [zSign]
    | X => simp [flipsAt, hl] at hf
    | Y => simp [flipsAt, hl] at hf

/-- the loop of `trim_trivial_operator` from any intermediate state `(sign, new)`: the invariant is that `new` still
    carries the letters of `term` on the qubits to come (`hagree`) and that ⟨term⟩ = sign · ⟨new⟩ (`hinv`) -/
theorem trimTermFrom_expect (k : Consts S) (n : Nat) (ψ : State S) (term : List Letter) (i : Nat)
    (rest : List (Nat × Bool)) (sign : Int) (new : List Letter)
    (hbits : ∀ qb ∈ rest, HasBit ψ qb.1 qb.2) (hnd : (rest.map (·.1)).Nodup)
    (hagree : ∀ qb ∈ rest, new[qb.1]? = term[qb.1]?)
    (hinv : expectW k n ψ term = (sign : S) * expectW k n ψ new) :
    match trimTermFrom term false i rest sign new with
    | none => expectW k n ψ term = 0
    | some (s, new') => expectW k n ψ term = (s : S) * expectW k n ψ new' := by
  induction rest generalizing i sign new with
  | nil => simpa [trimTermFrom] using hinv
  | cons qb rest ih =>
    obtain ⟨q, b⟩ := qb
    have hq := hbits (q, b) List.mem_cons_self
    have hag := hagree (q, b) List.mem_cons_self
    have hfl : flipsAt new q = flipsAt term q := by simp only [flipsAt, hag]
    simp only [List.map_cons, List.nodup_cons] at hnd
    rw [trimTermFrom_cons]
    by_cases hf : flipsAt term q = true
    · rw [if_pos hf]
      show _ = 0
      rw [hinv, expect_xy_zero k n new ψ q b hq (hfl.trans hf), mul_zero]
    · rw [if_neg hf]
      refine ih (i + 1) _ (new.set q .I) (fun qb h => hbits qb (List.mem_cons_of_mem _ h)) hnd.2 ?_ ?_
      · intro qb h
        rw [List.getElem?_set_ne (fun e => hnd.1 (List.mem_map.mpr ⟨qb, h, e.symm⟩))]
        exact hagree qb (List.mem_cons_of_mem _ h)
      · rw [hinv, expect_set_I k n new ψ q b hq (by rw [hfl]; simpa using hf), hag]
        split <;> push_cast <;> ring

/-- **`trim_trivial_operator` (reindex = False) preserves every expectation value**: for a state whose trimmed
    qubits are in the recorded basis states (distinct qubits), a term either vanishes — and then its expectation
    value is 0 — or becomes `sign · term'` with ⟨term⟩ = sign · ⟨term'⟩ -/
theorem trimTerm_expect (k : Consts S) (n : Nat) (ψ : State S) (term : List Letter) (states : List (Nat × Bool))
    (hbits : ∀ qb ∈ states, HasBit ψ qb.1 qb.2) (hnd : (states.map (·.1)).Nodup) :
    match trimTerm term states false with
    | none => expectW k n ψ term = 0
    | some (s, new') => expectW k n ψ term = (s : S) * expectW k n ψ new' := by
  unfold trimTerm
  exact trimTermFrom_expect k n ψ term 0 states 1 term hbits hnd (fun _ _ => rfl) (by simp)

end trimexpect

section trunc
variable {K : Type} [Field K] [LinearOrder K] [IsStrictOrderedRing K]

/-- squared coefficients discarded by the loop, by the same recursion -/
def discardedSum (thr2 : K) : K → List K → K
  | _, [] => 0
  | acc, c :: cs => let acc' := acc + c * c; (if thr2 < acc' then 0 else c * c) + discardedSum thr2 acc' cs

theorem frobKeep_all_of_gt (thr2 acc : K) (cs : List K) (h : thr2 < acc) : ∀ f ∈ frobKeep thr2 acc cs, f = true := by
  induction cs generalizing acc with
  | nil => exact fun f hf => absurd hf List.not_mem_nil
  | cons c cs ih =>
    have h' : thr2 < acc + c * c := lt_add_of_lt_of_nonneg h (mul_self_nonneg c)
    simp only [frobKeep, List.forall_mem_cons, decide_eq_true_eq]
    exact ⟨h', ih _ h'⟩

/-- once a term is kept every later one is: the kept terms form a suffix of the list the code has sorted -/
theorem frobKeep_monotone (thr2 acc : K) (cs : List K) :
    (frobKeep thr2 acc cs).Pairwise (fun a b => a = true → b = true) := by
  induction cs generalizing acc with
  | nil => exact List.Pairwise.nil
  | cons c cs ih =>
    rw [frobKeep, List.pairwise_cons]
    exact ⟨fun b hb ha => frobKeep_all_of_gt thr2 _ cs (of_decide_eq_true ha) b hb, ih _⟩

omit [IsStrictOrderedRing K] in
theorem discardedSq_eq (thr2 acc : K) (cs : List K) :
    discardedSq (frobKeep thr2 acc cs) cs = discardedSum thr2 acc cs := by
  rw [discardedSq, foldl_add_eq_sum (fun p : K × Bool => p.1 * p.1), zero_add]
  induction cs generalizing acc with
  | nil => rfl
  | cons c cs ih =>
    simp only [frobKeep, List.zip_cons_cons, discardedSum]
    by_cases h' : thr2 < acc + c * c <;> simp [h', ih]

theorem discarded_zero_of_gt (thr2 acc : K) (cs : List K) (h : thr2 < acc) : discardedSum thr2 acc cs = 0 := by
  rw [← discardedSq_eq, discardedSq, List.filter_eq_nil_iff.mpr, List.foldl_nil]
  intro p hp
  rw [frobKeep_all_of_gt thr2 acc cs h p.2 (List.of_mem_zip hp).2]; simp

/-- loop invariant: while nothing is kept yet, running sum + what will still be discarded ≤ budget -/
theorem discarded_le (thr2 acc : K) (cs : List K) (h : acc ≤ thr2) : acc + discardedSum thr2 acc cs ≤ thr2 := by
  induction cs generalizing acc with
  | nil => simpa [discardedSum] using h
  | cons c cs ih =>
    simp only [discardedSum]
    split
    · rename_i h'
      rwa [discarded_zero_of_gt thr2 _ cs h', add_zero, add_zero]
    · rename_i h'
      rw [← add_assoc]
      exact ih _ (not_lt.mp h')

/-- **budget**: the discarded coefficients (`discardedSum`, the model's `discardedSq` of the keep flags by
    `discardedSq_eq`) satisfy Σ c² ≤ ε²/2ⁿ, i.e. the discarded operator has squared Frobenius norm 2ⁿ Σ c² ≤ ε² -/
theorem frob_budget (eps : K) (n : Nat) (cs : List K) :
    (2 : K) ^ n * discardedSum (eps * eps / 2 ^ n) 0 cs ≤ eps * eps := by
  have hp : (0 : K) < 2 ^ n := by positivity
  have h := discarded_le (eps * eps / 2 ^ n) 0 cs (div_nonneg (mul_self_nonneg eps) hp.le)
  rwa [zero_add, le_div_iff₀' hp] at h

/-- the exponent matters: with 2^(n div 2) in place of 2^(n/2) the budget is exceeded for odd n: (I + Z)·7/10 on one
    qubit, ε = 1 -/
example : discardedSum ((1 : ℚ) * 1 / 2 ^ (1 / 2)) 0 [7 / 10, 7 / 10] = 49 / 50 ∧ (2 : ℚ) ^ 1 * (49 / 50) > 1 * 1 := by
  decide +kernel

end trunc

/-! Tapering.  `τ` is a symmetry of the Hamiltonian, `σ` the single-qubit Pauli chosen for it; they are anticommuting
involutions.  `V` in the names below is `σ + τ`, `U` is `c · V` with a central `c`, `2 c² = 1` (the Clifford rotation
`(σ + τ)/√2` of the code). -/
section taper
variable {A : Type} [Ring A]

theorem V_sq (σ τ : A) (hσ : σ * σ = 1) (hτ : τ * τ = 1) (h : σ * τ = -(τ * σ)) : (σ + τ) * (σ + τ) = 2 := by
  rw [add_mul, mul_add, mul_add, hσ, hτ, h, ← one_add_one_eq_two]; abel

theorem V_tau (σ τ : A) (hσ : σ * σ = 1) (hτ : τ * τ = 1) : (σ + τ) * τ = σ * (σ + τ) := by
  rw [add_mul, mul_add, hσ, hτ]; abel

theorem V_sigma (σ τ : A) (hσ : σ * σ = 1) (hτ : τ * τ = 1) : (σ + τ) * σ = τ * (σ + τ) := by
  rw [add_comm]; exact V_tau τ σ hτ hσ

theorem V_conj_tau (σ τ : A) (hσ : σ * σ = 1) (hτ : τ * τ = 1) (h : σ * τ = -(τ * σ)) :
    (σ + τ) * τ * (σ + τ) = 2 * σ := by
  rw [V_tau σ τ hσ hτ, mul_assoc, V_sq σ τ hσ hτ h, mul_two, two_mul]

theorem V_conj_sigma (σ τ : A) (hσ : σ * σ = 1) (hτ : τ * τ = 1) (h : σ * τ = -(τ * σ)) :
    (σ + τ) * σ * (σ + τ) = 2 * τ := by
  rw [add_comm]; exact V_conj_tau τ σ hτ hσ (by rw [h, neg_neg])

theorem U_involution (σ τ c : A) (hσ : σ * σ = 1) (hτ : τ * τ = 1) (h : σ * τ = -(τ * σ))
    (hc : ∀ x : A, c * x = x * c) (h2 : 2 * (c * c) = 1) : (c * (σ + τ)) * (c * (σ + τ)) = 1 := by
  rw [Commute.mul_mul_mul_comm (hc (σ + τ)).symm, V_sq σ τ hσ hτ h, mul_two, ← two_mul, h2]

/-- an operator commuting with the symmetry τ is rotated into one commuting with σ: it then carries only I or the
    chosen Pauli on that qubit -/
theorem rotated_commutes (σ τ P : A) (hσ : σ * σ = 1) (hτ : τ * τ = 1) (hP : P * τ = τ * P) :
    ((σ + τ) * P * (σ + τ)) * σ = σ * ((σ + τ) * P * (σ + τ)) :=
  -- σ moves to the left through V·P·V: the right V turns it into τ, τ passes P, the left V turns τ back into σ
  ((show SemiconjBy (σ + τ) τ σ from V_tau σ τ hσ hτ).mul_left (show SemiconjBy P τ τ from hP)).mul_left
    (show SemiconjBy (σ + τ) σ τ from V_sigma σ τ hσ hτ)

/-- the code multiplies the rotations of all symmetries into one `U` and applies it on both sides of `H` -/
theorem V_commute (σ₁ τ₁ σ₂ τ₂ : A) (h1 : σ₁ * σ₂ = σ₂ * σ₁) (h2 : σ₁ * τ₂ = τ₂ * σ₁) (h3 : τ₁ * σ₂ = σ₂ * τ₁)
    (h4 : τ₁ * τ₂ = τ₂ * τ₁) : (σ₁ + τ₁) * (σ₂ + τ₂) = (σ₂ + τ₂) * (σ₁ + τ₁) := by
  simp only [add_mul, mul_add, h1, h2, h3, h4]; abel

theorem conj_mul (U P Q : A) (hU : U * U = 1) : (U * P * U) * (U * Q * U) = U * (P * Q) * U := by
  simp only [mul_assoc]
  rw [← mul_assoc U U, hU, one_mul]

theorem invol_mul (U W : A) (hU : U * U = 1) (hW : W * W = 1) (hc : U * W = W * U) : (U * W) * (U * W) = 1 := by
  rw [Commute.mul_mul_mul_comm hc.symm, hU, hW, one_mul]

/-- **spectral inclusion**: an eigenvector of the rotated operator gives an eigenvector of the original
    operator with the same eigenvalue (λ any central element, e.g. a scalar) -/
theorem eigen_transfer {M : Type} [AddCommGroup M] [Module A M] (U H lam : A) (hU : U * U = 1)
    (hl : lam * U = U * lam) (v : M) (h : (U * H * U) • v = lam • v) : H • (U • v) = lam • (U • v) := by
  have e : H • U • v = U • (U * H * U) • v := by
    rw [← mul_smul, ← mul_smul, ← mul_assoc, ← mul_assoc, hU, one_mul]
  rw [e, h, ← mul_smul, ← mul_smul, hl]

/-- the σ = s sector is an invariant subspace of a rotated operator that commutes with σ; restricting to it is what
    substituting the eigenvalue and deleting the qubit computes -/
theorem sector_invariant {M : Type} [AddCommGroup M] [Module A M] (σ H' s : A) (hc : H' * σ = σ * H')
    (hs : s * H' = H' * s) (v : M) (hv : σ • v = s • v) : σ • (H' • v) = s • (H' • v) := by
  rw [← mul_smul, ← hc, mul_smul, hv, ← mul_smul, ← mul_smul, hs]

end taper

example : classify [⟨.RX, true⟩, ⟨.X, true⟩] = some false := by decide
example : classify [⟨.RZ, false⟩, ⟨.RX, true⟩] = some true := by decide
example : trimTerm [.X, .Z, .I, .Z] [(1, true), (3, false)] true = some (-1, [.X, .I]) := by decide
example : trimTerm [.X, .Z, .I, .Z] [(0, true)] true = none := by decide
example : frobKeep (1 / 4 : ℚ) 0 [1 / 10, 2 / 10, 1 / 2, 3] = [false, false, true, true] := by decide +kernel

end Tangelo.C14
