import TangeloModel.Decomp
import Mathlib.Algebra.BigOperators.Group.Finset.Basic
import Mathlib.Algebra.BigOperators.Group.List.Basic
import Mathlib.Data.Finset.Powerset
import Mathlib.Algebra.Field.Basic
import Mathlib.Tactic.Ring
import Mathlib.Tactic.NormNum
import TangeloProofs.Lemmas.ListSum
import TangeloProofs.Lemmas.Prelude
/-!
# C15 — problem-decomposition energies satisfy their defining identities
-/
namespace Tangelo.C15
open Tangelo.Decomp

section oniom
variable {R : Type} [CommRing R]

theorem oniomTotal_eq (fs : List (Frag R)) : oniomTotal fs = (fs.map Frag.energy).sum :=
  (foldl_add_eq_sum _ fs 0).trans (zero_add _)

theorem model_same_level (e : R) : (Frag.mk e (some e)).energy = 0 := by simp [Frag.energy]

/-- **identical levels**: system + any number of models each at identical high and low level ⇒ E_low(system),
    wherever the system fragment stands in the list -/
theorem oniom_same_levels (eSys : R) (pre post : List R) :
    oniomTotal (pre.map (fun e => Frag.mk e (some e)) ++ [Frag.mk eSys none] ++ post.map (fun e => Frag.mk e (some e))) = eSys := by
  rw [oniomTotal_eq]
  simp only [List.map_append, List.map_map, List.sum_append, List.map_cons, List.map_nil, List.sum_cons, List.sum_nil]
  have z : (Frag.energy ∘ fun e : R => Frag.mk e (some e)) = fun _ => 0 := funext model_same_level
  simp [z, Frag.energy]

/-- **model = whole system**: the low-level energies cancel and the high-level energy of the whole system remains -/
theorem oniom_whole_model (eLow eHigh : R) : oniomTotal [Frag.mk eLow none, Frag.mk eLow (some eHigh)] = eHigh := by
  simp [oniomTotal, Frag.energy]

theorem oniom_perm (a b : List (Frag R)) (h : a.Perm b) : oniomTotal a = oniomTotal b := by
  rw [oniomTotal_eq, oniomTotal_eq]; exact (h.map _).sum_eq

theorem oniom_whole_model' (eLow eHigh : R) : oniomTotal [Frag.mk eLow (some eHigh), Frag.mk eLow none] = eHigh :=
  (oniom_perm _ _ (.swap _ _ [])).trans (oniom_whole_model eLow eHigh)

end oniom

section link
variable {K : Type} [Field K]

def sub3 (p q : K × K × K) : K × K × K := (p.1 - q.1, p.2.1 - q.2.1, p.2.2 - q.2.2)
def smul3 (f : K) (p : K × K × K) : K × K × K := (f * p.1, f * p.2.1, f * p.2.2)
def norm2 (p : K × K × K) : K := p.1 * p.1 + p.2.1 * p.2.1 + p.2.2 * p.2.2

/-- **on the bond**: the cap minus the retained atom is `f` times the bond vector -/
theorem place_on_bond (a b : K × K × K) (f : K) : sub3 (place a b f) a = smul3 f (sub3 b a) := by
  simp only [place, sub3, smul3, Prod.mk.injEq]
  refine ⟨?_, ?_, ?_⟩ <;> ring

/-- **at the requested fraction**: |cap − a|² = f² |b − a|² -/
theorem place_distance (a b : K × K × K) (f : K) : norm2 (sub3 (place a b f) a) = f * f * norm2 (sub3 b a) := by
  rw [place_on_bond]; simp only [smul3, norm2, sub3]; ring

theorem place_one (a b : K × K × K) : place a b 1 = b := by
  simp [place]

theorem place_zero (a b : K × K × K) : place a b 0 = a := by
  simp [place]

end link

section reorder

/-- **DMET re-ordering**: block `i` of the re-ordered atom list, cut by the sizes, is fragment `i` -/
theorem block_flatten (frags : List (List Nat)) (i : Nat) (hi : i < frags.length) :
    block (reorder frags).1 (reorder frags).2 i = frags[i] := by
  rw [block, reorder, List.drop_sum_flatten, List.drop_eq_getElem_cons hi, List.flatten_cons]
  exact List.take_left' (by simp [hi])

theorem reorder_sizes (frags : List (List Nat)) : (reorder frags).2.sum = (reorder frags).1.length := by
  simp [reorder, List.length_flatten]

/-- taking the atoms from the sorted fragments and the sizes from the user's order breaks the correspondence (the
    sort is passed as its result on this input) -/
theorem sorted_bad_counterexample :
    block (reorderSortedBad (fun _ => [[0], [1, 2, 3]]) [[1, 2, 3], [0]]).1 (reorderSortedBad (fun _ => [[0], [1, 2, 3]]) [[1, 2, 3], [0]]).2 0
      ≠ [1, 2, 3] := by decide

end reorder

section distribute

/-- what the loop state shows: the system geometry, and the fragments with the aliases resolved -/
def view (st : DistSt) : List Atom × List (List Atom) := (st.sys, st.frags.map (·.getD st.sys))

theorem distStep_view (st : DistSt) (f : FragSpec) (hf : f.sel = Sel.all → f.links = []) :
    (distStep st f).map view = (fragGeom (view st).1 f).map fun g => ((view st).1, (view st).2 ++ [g]) := by
  obtain ⟨sel, links⟩ := f
  cases sel with
  | all => obtain rfl : links = [] := hf rfl; simp [distStep, fragGeom, selectAtoms, view]
  -- a selection of its own: both sides are the same two binds, with `view` and the pairing moved to the value returned
  | first n => simp [distStep, fragGeom, view, Option.map_bind]
  | idx l => simp [distStep, fragGeom, view, Option.map_bind]

theorem foldlM_distStep (fs : List FragSpec) (h : ∀ f ∈ fs, f.sel = Sel.all → f.links = []) (st : DistSt) :
    (fs.foldlM distStep st).map view = (fs.mapM (fragGeom st.sys)).map fun gs => (st.sys, (view st).2 ++ gs) :=
  foldlM_eq_mapM view distStep fragGeom fs (fun st f hf => distStep_view st f (h f hf)) st

theorem distribute_aux (geom : List Atom) : ∀ (fs : List FragSpec) (st : DistSt), st.sys = geom →
    (∀ f ∈ fs, f.sel = Sel.all → f.links = []) →
    match fs.mapM (fragGeom geom) with
    | none => fs.foldlM distStep st = none
    | some gs => ∃ st', fs.foldlM distStep st = some st' ∧ st'.sys = geom ∧
        st'.frags.map (fun g => g.getD geom) = st.frags.map (fun g => g.getD geom) ++ gs
  | fs, st, hs, hall => by
    have h := foldlM_distStep fs hall st
    subst hs
    cases hm : fs.mapM (fragGeom st.sys) with
    | none => simpa [hm] using h
    | some gs =>
      obtain ⟨st', h1, h2⟩ := Option.map_eq_some_iff.mp (hm ▸ h)
      obtain ⟨h3, h4⟩ := Prod.mk.inj h2
      exact ⟨st', h1, h3, by rw [h3] at h4; exact h4⟩

/-- **Every fragment receives its own atoms and its own capping atoms - nothing else.**  Provided no fragment without
    atom selection (the whole system) carries broken links, the loop of `distribute_atoms` - in-place extension and
    shared list object included - gives each fragment `fragGeom` of the ORIGINAL system geometry and of its own
    specification, whatever the other fragments and their order; an index outside the geometry is an error in the one
    exactly when it is in the other. -/
theorem distribute_independent (geom : List Atom) (fs : List FragSpec) (h : ∀ f ∈ fs, f.sel = Sel.all → f.links = []) :
    distribute geom fs = fs.mapM (fragGeom geom) := by
  -- `distribute` is the fragment part of what the loop state shows at the end
  simpa [distribute, view, Option.map_map, Function.comp_def] using
    congrArg (Option.map Prod.snd) (foldlM_distStep fs h { sys := geom, frags := [] })

/-- without that proviso the shared list object shows: a capped whole-system fragment changes what LATER fragments select -/
theorem distribute_alias_counterexample :
    distribute [(0, 0, 0), (10, 0, 0)] [⟨.all, [⟨0, 1, 5⟩]⟩, ⟨.first 3, []⟩]
      = some [[(0, 0, 0), (10, 0, 0), (5, 0, 0)], [(0, 0, 0), (10, 0, 0), (5, 0, 0)]] ∧
    [FragSpec.mk .all [⟨0, 1, 5⟩], ⟨.first 3, []⟩].mapM (fragGeom [(0, 0, 0), (10, 0, 0)])
      = some [[(0, 0, 0), (10, 0, 0), (5, 0, 0)], [(0, 0, 0), (10, 0, 0)]] := by decide

example : distribute [(0, 0, 0), (10, 0, 0), (20, 0, 0), (30, 0, 0)] [⟨.all, []⟩, ⟨.idx [1, 2], [⟨1, 0, 7⟩, ⟨2, 3, 5⟩]⟩]
    = some [[(0, 0, 0), (10, 0, 0), (20, 0, 0), (30, 0, 0)], [(10, 0, 0), (20, 0, 0), (3, 0, 0), (25, 0, 0)]] := by decide

end distribute

section mi
open Finset
variable {ι : Type} [DecidableEq ι] {R : Type} [CommRing R]

/-- method of increments: ε_S = c_S − Σ over the non-empty proper subsets T of S of ε_T  (c = correlation energy of the fragment) -/
noncomputable def eps (c : Finset ι → R) : Finset ι → R :=
  Finset.strongInduction (fun S rec => c S - ∑ T ∈ (S.ssubsets.filter (· ≠ ∅)).attach,
    rec T.1 ((Finset.mem_ssubsets.mp (Finset.mem_filter.mp T.2).1)))

theorem eps_eq (c : Finset ι → R) (S : Finset ι) :
    eps c S = c S - ∑ T ∈ S.ssubsets.filter (· ≠ ∅), eps c T := by
  unfold eps
  rw [Finset.strongInduction_eq]
  congr 1
  exact Finset.sum_attach (S.ssubsets.filter (· ≠ ∅)) (fun T => Finset.strongInduction _ T)

/-- **inclusion–exclusion**: the increments of all non-empty subsets of S add up to the correlation energy of S;
    carried to full order the summation returns the energy of the complete fragment -/
theorem mi_full_order (c : Finset ι → R) (S : Finset ι) (hS : S ≠ ∅) :
    ∑ T ∈ S.powerset.filter (· ≠ ∅), eps c T = c S := by
  -- the proper subsets are the subsets with `S` itself removed
  rw [← add_sum_erase _ _ (mem_filter.mpr ⟨mem_powerset_self S, hS⟩), ← filter_erase, eps_eq c S]
  exact sub_add_cancel _ _

/-- total energy: mean-field + all increments = energy of the complete fragment -/
theorem mi_total (eMf : R) (E : Finset ι → R) (S : Finset ι) (hS : S ≠ ∅) :
    eMf + ∑ T ∈ S.powerset.filter (· ≠ ∅), eps (fun T => E T - eMf) T = E S := by
  rw [mi_full_order _ S hS]; ring

end mi

example : oniomTotal [Frag.mk (-3 : ℚ) none, Frag.mk (-1) (some (-1))] = -3 := by
  simp [oniomTotal, Frag.energy]
example : place ((0 : ℚ), 0, 0) (2, 0, 4) (1 / 2) = (1, 0, 2) := by
  simp [place]; norm_num
example : block (reorder [[1, 2, 3], [0]]).1 (reorder [[1, 2, 3], [0]]).2 1 = [0] := by decide

end Tangelo.C15
