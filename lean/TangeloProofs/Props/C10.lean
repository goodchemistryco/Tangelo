import TangeloModel.Measure
import TangeloProofs.Lemmas.MeasRefines
import TangeloProofs.Lemmas.SemBasic
import TangeloProofs.Lemmas.Isometry
import TangeloProofs.CycLaws
import TangeloProofs.Lemmas.Counts
import Mathlib.Algebra.BigOperators.Group.Finset.Basic
import Mathlib.Algebra.Order.Ring.Rat
/-!
# C10 — mid-circuit measurement and classical control follow the Born rule

`proj q b ψ` is the (unnormalised) collapse; the probability of a branch is the squared norm of its
unnormalised state.  "Squared norm" is any additive weight `w` with `w 0 = 0` summed over the 2ⁿ basis
states (for ℂ: `w z = |z|²`), so the theorems hold for every register size and every amplitude ring.
-/
namespace Tangelo.C10
open Tangelo Finset
variable {R : Type} [CommRing R]

def normN (w : R → R) (n : Nat) (ψ : State R) : R := ∑ i ∈ range (2 ^ n), w (ψ (bitsOf i))

/-- **Born rule for one measurement**: pointwise, the weights of the two branches add up to the weight
    before the measurement (so the probability-weighted branch distributions reproduce the dephased,
    unconditioned distribution) -/
theorem mixture_pointwise (w : R → R) (hw : w 0 = 0) (q : Nat) (ψ : State R) (x : Bits) :
    w (proj q false ψ x) + w (proj q true ψ x) = w (ψ x) := by
  simp only [proj]
  cases x q <;> simp [hw]

theorem proj_complement (q : Nat) (ψ : State R) (x : Bits) : proj q false ψ x + proj q true ψ x = ψ x :=
  mixture_pointwise id rfl q ψ x

theorem proj_off (q : Nat) (b : Bool) (ψ : State R) (x : Bits) (h : x q ≠ b) : proj q b ψ x = 0 := by
  simp [proj, h]

theorem proj_idem (q : Nat) (b : Bool) (ψ : State R) : proj q b (proj q b ψ) = proj q b ψ := by
  funext x; simp only [proj]; split <;> simp_all

theorem proj_orth (q : Nat) (b : Bool) (ψ : State R) : proj q (!b) (proj q b ψ) = fun _ => 0 := by
  funext x; simp only [proj]; cases b <;> cases x q <;> simp

theorem probs_add (w : R → R) (hw : w 0 = 0) (n q : Nat) (ψ : State R) :
    normN w n (proj q false ψ) + normN w n (proj q true ψ) = normN w n ψ := by
  simp only [normN, ← sum_add_distrib]
  exact sum_congr rfl (fun i _ => mixture_pointwise w hw q ψ (bitsOf i))

/-- abstract program step: a state transformer, a measurement, or a measurement whose outcome selects
    the steps to run next.  The programs of the model (`MGate`, run by `runBranch` / `specBranch`) are of this shape
    with `apply (semOps k ops)` for their gate lists (`GateProgram`); no theorem relates `totalProb` to the branches
    of `specBranch` -/
inductive Step (R : Type)
  | apply (U : State R → State R)
  | measure (q : Nat)
  | cmeasure (q : Nat) (on0 on1 : List (Step R))

/-- sum over all complete outcome strings of the branch probability (each leaf of the recursion is one
    complete outcome string; `fuel` bounds the nesting).  At `fuel = 0` the rest of the program is not run and the
    weight of the current state is returned: the sum for a truncated program, of which `branch_probs_sum` holds as well -/
def totalProb (w : R → R) (n : Nat) : Nat → List (Step R) → State R → R
  | 0, _, ψ => normN w n ψ
  | _ + 1, [], ψ => normN w n ψ
  | fuel + 1, Step.apply U :: rest, ψ => totalProb w n fuel rest (U ψ)
  | fuel + 1, Step.measure q :: rest, ψ =>
      totalProb w n fuel rest (proj q false ψ) + totalProb w n fuel rest (proj q true ψ)
  | fuel + 1, Step.cmeasure q on0 on1 :: rest, ψ =>
      totalProb w n fuel (on0 ++ rest) (proj q false ψ) + totalProb w n fuel (on1 ++ rest) (proj q true ψ)

/-- every `apply` step in the program (at any nesting depth) preserves the total weight -/
inductive AllPreserve (w : R → R) (n : Nat) : List (Step R) → Prop
  | nil : AllPreserve w n []
  | apply (U : State R → State R) (rest : List (Step R)) : (∀ ψ, normN w n (U ψ) = normN w n ψ) → AllPreserve w n rest →
      AllPreserve w n (Step.apply U :: rest)
  | measure (q : Nat) (rest : List (Step R)) : AllPreserve w n rest → AllPreserve w n (Step.measure q :: rest)
  | cmeasure (q : Nat) (on0 on1 rest : List (Step R)) : AllPreserve w n on0 → AllPreserve w n on1 → AllPreserve w n rest →
      AllPreserve w n (Step.cmeasure q on0 on1 :: rest)

theorem AllPreserve.append {w : R → R} {n : Nat} {xs ys : List (Step R)} (hx : AllPreserve w n xs) (hy : AllPreserve w n ys) :
    AllPreserve w n (xs ++ ys) := by
  induction hx with
  | nil => exact hy
  | apply U rest hU _ ih => exact AllPreserve.apply U _ hU ih
  | measure q rest _ ih => exact AllPreserve.measure q _ ih
  | cmeasure q on0 on1 rest h0 h1 _ _ _ ih => exact AllPreserve.cmeasure q on0 on1 _ h0 h1 ih

/-- **The branch probabilities of all outcome strings sum to the initial norm** (to 1 for a normalised
    start), for any number and placement of MEASURE / CMEASURE steps, nested controls included, as long as
    the gates in between preserve the norm. -/
theorem branch_probs_sum (w : R → R) (hw : w 0 = 0) (n : Nat) :
    ∀ (fuel : Nat) (steps : List (Step R)) (ψ : State R), AllPreserve w n steps →
      totalProb w n fuel steps ψ = normN w n ψ := by
  intro fuel
  induction fuel with
  | zero => intro steps ψ _; rfl
  | succ f ih =>
    intro steps ψ h
    cases h with
    | nil => rfl
    | apply U rest hU hr => rw [totalProb, ih rest (U ψ) hr, hU]
    | measure q rest hr => rw [totalProb, ih rest _ hr, ih rest _ hr, probs_add w hw n q ψ]
    | cmeasure q on0 on1 rest h0 h1 hr =>
      rw [totalProb, ih _ _ (h0.append hr), ih _ _ (h1.append hr), probs_add w hw n q ψ]

/-! Gate segments do preserve the norm: the hypothesis of `branch_probs_sum` is discharged for the gate set. -/
section gates
variable {R : Type} [CommRing R] [StarRing R]

theorem normN_wt (n : Nat) (ψ : State R) : normN (wt (R := R)) n ψ = normSq n ψ := rfl

theorem gates_preserve (k : Consts R) (L : k.Laws) (S : k.StarLaws) (n : Nat) (ops : List Op) (h : ∀ o ∈ ops, o.inReg n) :
    ∀ ψ : State R, normN (wt (R := R)) n (semOps k ops ψ) = normN (wt (R := R)) n ψ :=
  fun ψ => semOps_isometry k L S n ops h ψ

/-- programs whose gate segments are gate lists of the gate set inside the register, with measurements and
    measurement-controlled alternatives nested to any depth -/
inductive GateProgram (k : Consts R) (n : Nat) : List (Step R) → Prop
  | nil : GateProgram k n []
  | gates (ops : List Op) (rest : List (Step R)) : (∀ o ∈ ops, o.inReg n) → GateProgram k n rest →
      GateProgram k n (Step.apply (semOps k ops) :: rest)
  | measure (q : Nat) (rest : List (Step R)) : GateProgram k n rest → GateProgram k n (Step.measure q :: rest)
  | cmeasure (q : Nat) (on0 on1 rest : List (Step R)) : GateProgram k n on0 → GateProgram k n on1 → GateProgram k n rest →
      GateProgram k n (Step.cmeasure q on0 on1 :: rest)

theorem GateProgram.allPreserve (k : Consts R) (L : k.Laws) (S : k.StarLaws) (n : Nat) (steps : List (Step R))
    (h : GateProgram k n steps) : AllPreserve (wt (R := R)) n steps := by
  induction h with
  | nil => exact AllPreserve.nil
  | gates ops rest hops _ ih => exact AllPreserve.apply _ _ (gates_preserve k L S n ops hops) ih
  | measure q rest _ ih => exact AllPreserve.measure q _ ih
  | cmeasure q on0 on1 rest _ _ _ ih0 ih1 ih => exact AllPreserve.cmeasure q on0 on1 _ ih0 ih1 ih

/-- **Born rule for every program of the gate set**: any interleaving of gate lists, MEASURE and CMEASURE
    (alternatives nested to any depth) — the probabilities of all outcome strings sum to the norm of the input -/
theorem branch_probs_sum_program (k : Consts R) (L : k.Laws) (S : k.StarLaws) (n : Nat) (steps : List (Step R))
    (h : GateProgram k n steps) (fuel : Nat) (ψ : State R) :
    totalProb (wt (R := R)) n fuel steps ψ = normSq n ψ :=
  branch_probs_sum (wt (R := R)) (by simp [wt]) n fuel steps ψ (GateProgram.allPreserve k L S n steps h)

/-- `branch_probs_sum_program` on one program shape: gates, a measurement, more gates, a measurement-controlled
    choice between two gate lists, more gates -/
theorem branch_probs_sum_gates (k : Consts R) (L : k.Laws) (S : k.StarLaws) (n : Nat)
    (g0 g1 on0 on1 g2 : List Op) (q1 q2 : Nat)
    (h0 : ∀ o ∈ g0, o.inReg n) (h1 : ∀ o ∈ g1, o.inReg n) (ha : ∀ o ∈ on0, o.inReg n) (hb : ∀ o ∈ on1, o.inReg n)
    (h2 : ∀ o ∈ g2, o.inReg n) (fuel : Nat) (ψ : State R) :
    totalProb (wt (R := R)) n fuel
      [Step.apply (semOps k g0), Step.measure q1, Step.apply (semOps k g1),
       Step.cmeasure q2 [Step.apply (semOps k on0)] [Step.apply (semOps k on1)], Step.apply (semOps k g2)] ψ
      = normSq n ψ :=
  branch_probs_sum_program k L S n _
    (.gates g0 _ h0 <| .measure q1 _ <| .gates g1 _ h1 <|
      .cmeasure q2 _ _ _ (.gates on0 _ ha .nil) (.gates on1 _ hb .nil) (.gates g2 _ h2 .nil)) fuel ψ

end gates

theorem total_addTo (d : List (List Bool × Rat)) (k : List Bool) (v : Rat) : total (addTo d k v) = total d + v := by
  simpa [total] using sum_addTo (fun _ => 1) d k v

/-- splitting joint frequencies into the mid-circuit part and the last `n` digits conserves the total in both parts -/
theorem split_conserves (freqs : List (List Bool × Rat)) (n : Nat) :
    total (splitLastN freqs n).1 = total freqs ∧ total (splitLastN freqs n).2 = total freqs := by
  -- the loop updates its two dictionaries independently, so it is two loops
  have e : splitLastN freqs n = _ :=
    List.foldl_hom₂ freqs Prod.mk (fun a (kv : List Bool × Rat) => addTo a (kv.1.take (kv.1.length - n)) kv.2)
      (fun a (kv : List Bool × Rat) => addTo a (kv.1.drop (kv.1.length - n)) kv.2) _ [] [] fun _ _ _ => rfl
  rw [e, total_foldl_addTo, total_foldl_addTo, total_nil, zero_add]
  exact ⟨rfl, rfl⟩

/-- the hypothesis of `branch_probs_sum` can be met by a program with a nested controlled measurement -/
example : AllPreserve (fun z : ℚ => z * z) 1 [Step.apply id, Step.cmeasure 0 [Step.measure 0] [], Step.measure 0] :=
  AllPreserve.apply id _ (fun _ => rfl) (AllPreserve.cmeasure 0 _ _ _ (AllPreserve.measure 0 _ AllPreserve.nil) AllPreserve.nil
    (AllPreserve.measure 0 _ AllPreserve.nil))

/-- **what the model driver returns for a branch is the specified post-measurement state** (`specBranch`: unnormalised
    projection after every measurement, selected gate lists after every controlled measurement) -/
theorem branch_state_is_specified (n fuel : Nat) (prog : List MGate) (des : List Bool) (acc : BranchOut) (ψ : State Cyc)
    (hp : ProgInReg n prog) (hacc : acc.sv = tabulate n ψ) :
    (runBranch n fuel prog des acc).map (·.sv) = (specBranch fuel prog des ψ).map (tabulate n) :=
  runBranch_refines n fuel prog des acc ψ hp hacc

end Tangelo.C10
