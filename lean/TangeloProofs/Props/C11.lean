import TangeloProofs.Lemmas.CircuitInv
/-!
# C11 — circuit metadata stays consistent under any operation history

The model (`TangeloModel/Circuit.lean`, `Store.lean`) mirrors `tangelo/linq/circuit.py`,
`gate.py`; the correspondence check replays histories on both.  The invariant `Circuit.Inv` is defined in
`Lemmas/CircuitInv.lean`.
-/
namespace Tangelo.C11
open Tangelo Circuit

def AllInv (s : Store) : Prop := ∀ p ∈ s, p.2.Inv

theorem allInv_put (s : Store) (k : String) (c : Circuit) (hs : AllInv s) (hc : c.Inv) : AllInv (s.put k c) := by
  intro p hp
  unfold Store.put at hp
  split at hp
  · obtain ⟨q, hq, rfl⟩ := List.mem_map.mp hp
    split
    · exact hc
    · exact hs q hq
  · rcases List.mem_append.mp hp with h | h
    · exact hs p h
    · cases List.mem_singleton.mp h; exact hc

theorem need_inv (s : Store) (k : String) (c : Circuit) (hs : AllInv s) (h : need s k = .ok c) : c.Inv := by
  unfold need Store.get? at h
  cases hf : s.find? (·.1 == k) with
  | none => simp [hf] at h
  | some p =>
    simp only [hf, Option.map_some, Except.ok.injEq] at h
    exact h ▸ hs p (List.mem_of_find?_eq_some hf)

theorem inv_add (c d r : Circuit) (h : c.add d = .ok r) : r.Inv := inv_ofGates h
theorem inv_mul (c r : Circuit) (n : Int) (h : c.mul n = .ok r) : r.Inv := by
  unfold Circuit.mul at h; split at h
  · cases h
  · exact inv_ofGates h
theorem inv_copy (c r : Circuit) (h : c.copy = .ok r) : r.Inv := inv_ofGates h
theorem inv_inverse (c r : Circuit) (h : c.inverse = .ok r) : r.Inv := by
  obtain ⟨gs, _, h⟩ := bind_eq_ok.mp h
  exact inv_ofGates h
theorem inv_removeSmall (p : Gate → Bool) (c r : Circuit) (rq : Bool) (h : removeSmallWith p c rq = .ok r) : r.Inv :=
  let ⟨_, h⟩ := removeSmallWith_ok h; inv_ofGates h

theorem inv_trim (c r : Circuit) (hc : c.Inv) (h : c.trimQubits = .ok r) : r.Inv := by
  obtain ⟨rfl, hq⟩ := trimQubits_eq_ok (tblFun_agrees _) h
  exact inv_relabel c _ _ hc (by simpa using hq) List.pairwise_lt_range

theorem inv_reindex (c r : Circuit) (idx : List Nat) (hc : c.Inv) (h : c.reindexQubits idx = .ok r) : r.Inv := by
  obtain ⟨rfl, hq⟩ := reindexQubits_eq_ok (tblFun_agrees _) h
  refine inv_relabel c _ _ hc ?_ (foldl_setInsert_sorted _ _ (by simp))
  simpa [setOfList, mem_foldl_setInsert] using hq

theorem step_rejected_unchanged (d : Decide) (s : Store) (op : COp) (e : Err)
    (h : (step d s op).2 = .err e) : (step d s op).1 = s ∨ ∃ r, stepE d s op = .ok r :=
  step_store (P := fun s' => s' = s ∨ ∃ r, stepE d s op = .ok r) (.inl rfl) fun r hr => .inr ⟨r, hr⟩

theorem step_error_store (d : Decide) (s : Store) (op : COp) (e : Err) (h : stepE d s op = .error e) :
    step d s op = (s, .err e) := by
  simp [step, h]

/-- translation and simulation are the model's `noop`, which returns the store by definition -/
theorem readonly_store (d : Decide) (s : Store) :
    (∀ a, (step d s (.depth a)).1 = s) ∧ (∀ a b, (step d s (.eq a b)).1 = s) ∧
    (∀ a, (step d s (.entangled a)).1 = s) ∧ (step d s .noop).1 = s := by
  have ro := fun op => step_store (P := (· = s)) (d := d) (op := op) rfl
  refine ⟨fun a => ro _ ?_, fun a b => ro _ ?_, fun a => ro _ ?_, ro _ ?_⟩ <;> simp only [stepE, bind_eq_ok, pure_eq_ok]
  · rintro r ⟨_, _, rfl⟩; rfl
  · rintro r ⟨_, _, _, _, rfl⟩; rfl
  · rintro r ⟨_, _, rfl⟩; rfl
  · rintro r rfl; rfl

theorem filterMap_getElem?_length (gs : List Gate) (idx : List Nat) (h : ∀ i ∈ idx, i < gs.length) :
    (idx.filterMap (fun i => gs[i]?)).length = idx.length :=
  List.filterMap_length_eq_length.mpr fun i hi => by simp [h i hi]

theorem varGates_length (c : Circuit) (h : ∀ i ∈ c.varIdx, i < c.gates.length) : c.varGates.length = c.varIdx.length :=
  filterMap_getElem?_length c.gates c.varIdx h

/-- `size`, `counts`, `counts_n_qubit`, `is_variational`, `is_mixed_state` as functions of the gate list -/
theorem meta_recomputed (c : Circuit) (hc : c.Inv) :
    c.size = c.gates.length ∧
    (∀ nm, lookupD c.counts nm = c.gates.countP (fun g => g.name == nm)) ∧
    (∀ k, lookupD c.nqCounts k = c.gates.countP (fun g => g.qubits.length == k)) ∧
    (c.isVariational = c.gates.any (fun g => g.isVar)) ∧
    (c.isMixedState = c.gates.any (fun g => g.name == "MEASURE" || g.name == "CMEASURE")) := by
  refine ⟨rfl, hc.counts, hc.nq, ?_, ?_⟩
  · have hl := varGates_length c hc.varLt
    rw [hc.var] at hl
    have : c.varIdx = [] ↔ c.gates.filter (fun g => g.isVar) = [] := by
      rw [← List.length_eq_zero_iff, ← hl, List.length_eq_zero_iff]
    rw [Circuit.isVariational, Bool.eq_iff_iff]
    simp [this]
  · rw [Circuit.isMixedState, hc.counts, hc.counts, Bool.eq_iff_iff]
    simp [List.countP_pos_iff, and_or_left, exists_or]

theorem used_lt_width (c : Circuit) (hc : c.Inv) :
    ∀ g ∈ c.gates, ∀ q ∈ g.qubits, q < c.width :=
  fun g hg q hq => lt_width hc.sorted (hc.used g hg q hq)

theorem hasDup_false_iff (l : List Nat) : Gate.hasDup l = false ↔ l.Nodup := by
  induction l with
  | nil => simp [Gate.hasDup]
  | cons x xs ih => simp [Gate.hasDup, ih, List.nodup_cons]

theorem checkIdx_some (l : List RawIdx) (r : List Nat) (h : Gate.checkIdx l = some r) :
    ∀ x ∈ l, ∃ i : Int, x = .int i ∧ 0 ≤ i := by
  fun_induction Gate.checkIdx l generalizing r with
  | case1 => simp
  | case2 => cases h
  | case3 i rest hi ih =>
    obtain ⟨r', hr, -⟩ := Option.map_eq_some_iff.mp h
    exact List.forall_mem_cons.mpr ⟨⟨i, rfl, by omega⟩, ih r' hr⟩
  | case4 => cases h

/-- what `Gate.__init__` has checked of an accepted gate.  Under a two-target name only "one or two targets":
    `expectedTargets` asks the one-target table first and the proof does not use that the two regenerated tables are
    disjoint -/
theorem mk?_sound (name : Option String) (t : List RawIdx) (c : Option (List RawIdx)) (p : Param) (v : Bool) (g : Gate)
    (h : Gate.mk? name t c p v = .ok g) :
    (∀ x ∈ t, ∃ i : Int, x = .int i ∧ 0 ≤ i) ∧
    (∀ cs, c = some cs → ∀ x ∈ cs, ∃ i : Int, x = .int i ∧ 0 ≤ i) ∧
    g.qubits.Nodup ∧
    (Tables.oneTargetGates.contains g.name → g.target.length = 1) ∧
    (Tables.twoTargetGates.contains g.name → g.target.length = 1 ∨ g.target.length = 2) ∧
    (g.control.isSome → g.name.front = 'C') := by
  -- the one path through `Gate.__init__` on which no rule rejects: one `split` for each rule
  unfold Gate.mk? at h
  split at h
  · cases h
  rename_i tgt htgt
  split at h
  · cases h
  rename_i nm
  simp only at h
  split at h
  · cases h
  rename_i ctl hctl
  split at h
  · cases h
  rename_i hdup
  split at h
  · cases h
  rename_i hlen
  cases h
  replace hlen : tgt.length = Gate.expectedTargets nm.toUpper tgt.length := by simpa using hlen
  have hc : (∀ cs, c = some cs → ∀ x ∈ cs, ∃ i : Int, x = .int i ∧ 0 ≤ i) ∧ (ctl.isSome → nm.toUpper.front = 'C') := by
    cases c with
    | none => cases hctl; simp
    | some cs =>
      simp only at hctl
      split at hctl
      · cases hctl
      rename_i hfront
      split at hctl
      · cases hctl
      exact ⟨fun _ e => Option.some.inj e ▸ checkIdx_some cs _ ‹_›, fun _ => by simpa using hfront⟩
  refine ⟨checkIdx_some t tgt htgt, hc.1, (hasDup_false_iff (tgt ++ ctl.getD [])).mp (by simpa using hdup), fun h1 => ?_,
    fun h2 => ?_, hc.2⟩
  · simpa only [Gate.expectedTargets, h1, if_true] using hlen
  · simp only [Gate.expectedTargets, h2, if_true] at hlen
    split at hlen
    · exact .inl hlen
    · exact .inr hlen

/-- **spelling of the name is immaterial**: every rule of `Gate.__init__` (control allowed, number of targets, the stored
    name) looks at the upper-cased name only.  `String.toUpper` does not reduce in the kernel; instances of the hypothesis
    ("swap" / "SWAP", "cRz" / "CRZ") are evaluated by the compiled driver in the correspondence check -/
theorem mk?_spelling (nm0 nm1 : String) (h : nm0.toUpper = nm1.toUpper) (t : List RawIdx) (c : Option (List RawIdx)) (p : Param) (v : Bool) :
    Gate.mk? (some nm0) t c p v = Gate.mk? (some nm1) t c p v := by
  simp only [Gate.mk?, h]

/-- negative or non-integer target index ⇒ `ValueError` -/
theorem mk?_rejects_bad_target (name : Option String) (t : List RawIdx) (c : Option (List RawIdx)) (p : Param) (v : Bool)
    (h : Gate.checkIdx t = none) : Gate.mk? name t c p v = .error .value := by
  simp [Gate.mk?, h]

example : (Circuit.ofGates [⟨"H", [0], none, .none, false⟩, ⟨"CRZ", [1], some [0], .ang (Ang.piQuarter 1), true⟩] (some 3)).isOk = true := by decide
example : ∃ c, Circuit.ofGates [⟨"H", [0], none, .none, false⟩] none = .ok c ∧ c.Inv :=
  ⟨_, rfl, (inv_empty none).addGateCore _⟩

theorem inv_merge (eqv : Gate → Gate → Bool) (c r : Circuit) (h : mergeRotationsWith eqv c = .ok r) : r.Inv :=
  let ⟨_, _, h⟩ := mergeRotationsWith_ok h; inv_ofGates h

theorem inv_removeRedundant (eqv : Gate → Gate → Bool) (c r : Circuit) (rq : Bool)
    (h : removeRedundantWith eqv c rq = .ok r) : r.Inv :=
  let ⟨_, _, _, _, h⟩ := removeRedundantWith_ok h; inv_ofGates h

theorem inv_simplify_loop (eqv : Gate → Gate → Bool) (small : Gate → Bool) (maxCycles : Nat) (rq : Bool) :
    ∀ (fuel i : Nat) (cOld cNew r : Circuit), cOld.Inv →
      simplifyWith.loop eqv small maxCycles rq fuel i cOld cNew = .ok r → r.Inv :=
  simplifyWith_loop_ind (·.Inv) eqv small maxCycles rq fun _ _ s r _ _ _ hr => inv_removeRedundant eqv s r rq hr

theorem inv_simplify (eqv : Gate → Gate → Bool) (small : Gate → Bool) (c r : Circuit) (n : Nat) (rq : Bool)
    (h : simplifyWith eqv small c n rq = .ok r) : r.Inv :=
  let ⟨c0, hc0, h⟩ := bind_eq_ok.mp h
  inv_simplify_loop eqv small n rq _ _ c0 _ r (inv_copy c c0 hc0) h

theorem mapM_inv (f : Circuit → Except Err Circuit) (hf : ∀ c r, c.Inv → f c = .ok r → r.Inv)
    (cs rs : List Circuit) (hcs : ∀ c ∈ cs, c.Inv) (h : cs.mapM f = .ok rs) : ∀ r ∈ rs, r.Inv := by
  intro r hr
  obtain ⟨c, hc, e⟩ := exists_of_map_eq_map (mapM_eq_ok.mp h) hr
  exact hf c r (hcs c hc) e

theorem foldlM_inv {β : Type} (P : β → Prop) {α : Type} (f : β → α → Except Err β)
    (hf : ∀ b a b', P b → f b a = .ok b' → P b') (l : List α) (b b' : β) (hb : P b)
    (h : l.foldlM f b = .ok b') : P b' :=
  foldlM_ok_inv (fun b b' a _ => hf b a b') hb h

theorem inv_split (c : Circuit) (trim : Bool) (rs : List Circuit) (h : c.split trim = .ok rs) : ∀ r ∈ rs, r.Inv := by
  obtain ⟨cs, hcs, h⟩ := bind_eq_ok.mp h
  have hall : ∀ x ∈ cs, x.Inv := by
    refine foldlM_inv (fun (l : List Circuit) => ∀ x ∈ l, x.Inv) _ ?_ c.gates _ cs ?_ hcs
    · intro b g b' hb hstep
      rcases placeGate_eq_ok hstep with ⟨j, ci, ci', -, hci, hadd, rfl⟩ | ⟨rfl, -⟩
      · intro x hx
        rcases List.mem_or_eq_of_mem_set hx with e | rfl
        · exact hb x e
        · exact inv_addGate (hb ci (List.mem_of_getElem? hci)) hadd
      · exact hb
    · simp [inv_empty]
  split at h
  · exact mapM_inv _ inv_trim cs rs hall h
  · cases h; exact hall

theorem inv_stack (cs : List Circuit) (r : Circuit) (hcs : ∀ c ∈ cs, c.Inv) (h : Circuit.stack cs = .ok r) : r.Inv := by
  unfold Circuit.stack at h
  split at h
  · cases h; exact inv_empty none
  · obtain ⟨tr, htr, h⟩ := bind_eq_ok.mp h
    have htrInv := mapM_inv _ inv_trim cs tr hcs htr
    split at h
    · cases h; exact inv_empty none
    · rename_i first rest
      refine foldlM_inv (fun (x : Circuit) => x.Inv) _ ?_ rest first r (htrInv first (by simp)) h
      intro b a b' _ hstep
      obtain ⟨_, _, hstep⟩ := bind_eq_ok.mp hstep
      exact inv_add _ _ b' hstep

theorem allInv_putAll (s : Store) (dst : String) (cs : List Circuit) (hs : AllInv s) (hcs : ∀ c ∈ cs, c.Inv) :
    AllInv (putAll s dst cs) :=
  List.foldlRecOn (motive := AllInv) _ _ hs fun st hst p hp =>
    allInv_put st _ p.1 hst (hcs p.1 (List.fst_mem_of_mem_zipIdx hp))

theorem step_preserves (d : Decide) (s : Store) (op : COp) (hs : AllInv s) : AllInv (step d s op).1 := by
  refine step_store hs fun r hr => ?_
  have put := fun dst c => allInv_put s dst c hs
  have get := fun k c => need_inv s k c hs
  -- nine operations read one operand, apply `F` to it and write the result
  have unary : ∀ {a dst : String} {F : Circuit → Except Err Circuit}, (∀ c r, c.Inv → F c = .ok r → r.Inv) →
      (∃ ca, need s a = .ok ca ∧ ∃ c, F ca = .ok c ∧ (s.put dst c, Res.unit) = r) → AllInv r.1 := by
    rintro a dst F hF ⟨ca, hca, c, hc, rfl⟩
    exact put _ _ (hF ca c (get _ _ hca) hc)
  cases op <;> simp only [stepE, bind_eq_ok, pure_eq_ok] at hr
  case new dst gs n => obtain ⟨c, hc, rfl⟩ := hr; exact put _ _ (inv_ofGates hc)
  case addGate dst g =>
    obtain ⟨c, hc, hr⟩ := hr
    split at hr
    · cases hr
    · cases hr
    · simp only [bind_eq_ok, pure_eq_ok] at hr
      obtain ⟨c', hc', rfl⟩ := hr
      exact put _ _ (inv_addGate (get _ _ hc) hc')
  case add dst a b => obtain ⟨_, _, _, _, c, hc, rfl⟩ := hr; exact put _ _ (inv_add _ _ c hc)
  case mul dst a n => exact unary (fun c r _ => inv_mul c r n) hr
  case copy dst a => exact unary (fun c r _ => inv_copy c r) hr
  case inverse dst a => exact unary (fun c r _ => inv_inverse c r) hr
  case trim dst => exact unary inv_trim hr
  case reindex dst idx => exact unary (fun c r => inv_reindex c r idx) hr
  case split dst a trim => obtain ⟨_, _, cs, hcs, rfl⟩ := hr; exact allInv_putAll s dst cs hs (inv_split _ trim cs hcs)
  case stack dst ids =>
    obtain ⟨cs, hcs, c, hc, rfl⟩ := hr
    refine put _ _ (inv_stack cs c (fun x hx => ?_) hc)
    obtain ⟨i, _, hi⟩ := exists_of_map_eq_map (mapM_eq_ok.mp hcs) hx
    exact get i x hi
  case rsr dst a thr rq => exact unary (fun c r _ => inv_removeSmall _ c r rq) hr
  case rrg dst a rq => exact unary (fun c r _ => inv_removeRedundant _ c r rq) hr
  case merge dst a => exact unary (fun c r _ => inv_merge _ c r) hr
  case simplify dst a cycles thr rq => exact unary (fun c r _ => inv_simplify _ _ c r cycles rq) hr
  case depth a => obtain ⟨_, _, rfl⟩ := hr; exact hs
  case eq a b => obtain ⟨_, _, _, _, rfl⟩ := hr; exact hs
  case entangled a => obtain ⟨_, _, rfl⟩ := hr; exact hs
  case noop => cases hr; exact hs

theorem run_preserves (d : Decide) (ops : List COp) (s : Store) (hs : AllInv s) : AllInv (run d s ops) :=
  List.foldlRecOn (motive := AllInv) ops _ hs fun st hst op _ => step_preserves d st op hst

/-- **C11, model level**: after *any* finite history of operations, starting from the empty store, every stored
    circuit satisfies `Circuit.Inv`; `meta_recomputed` reads its reported metadata off the gate list. -/
theorem reachable_inv (d : Decide) (ops : List COp) : AllInv (run d [] ops) :=
  run_preserves d ops [] (fun _ h => by simp at h)

/-- **fixed width**: a circuit built with `n_qubits = n > 0` reports width `n` whatever its gates -/
theorem width_ofGates_fixed (gs : List Gate) (n : Nat) (c : Circuit) (h : Circuit.ofGates gs (some (n + 1)) = .ok c) :
    c.width = n + 1 := by
  have hinv := inv_ofGates h
  obtain ⟨hb, rfl⟩ := addGates_eq_ok.mp h
  -- the index set is `range (n + 1)` and the qubits of the gates, which the range check keeps below `n + 1`
  have hm := mem_indices_foldl gs (Circuit.empty (some (n + 1)))
  refine width_eq hinv.sorted ((hm n).mpr (.inl (by simp [Circuit.empty, truthy]))) fun q hq => ?_
  rcases (hm q).mp hq with e | ⟨g, hg, hq⟩
  · simp [Circuit.empty, truthy] at e; omega
  · have := lt_of_addGateBad rfl (hb g hg) q hq; omega

/-- **free width**: without `n_qubits`, the width is one more than the largest qubit index any gate touches
    (0 for no gates) -/
theorem width_ofGates_free (gs : List Gate) (c : Circuit) (h : Circuit.ofGates gs Option.none = .ok c) :
    (∀ g ∈ gs, ∀ q ∈ g.qubits, q < c.width) ∧ (c.width = 0 ∨ ∃ g ∈ gs, c.width - 1 ∈ g.qubits) := by
  have hm := (addGates_eq_ok.mp h).2 ▸ mem_indices_foldl gs (Circuit.empty Option.none)
  refine ⟨gates_ofGates h ▸ used_lt_width c (inv_ofGates h), c.width_pred_mem.imp_right fun hmem => ?_⟩
  simpa [Circuit.empty, truthy] using (hm _).mp hmem

/-- **C11, width**: after any finite history every qubit a gate touches is below the width its circuit reports -/
theorem reachable_used_lt_width (d : Decide) (ops : List COp) :
    ∀ p ∈ run d [] ops, ∀ g ∈ p.2.gates, ∀ q ∈ g.qubits, q < p.2.width :=
  fun p hp => used_lt_width p.2 (reachable_inv d ops p hp)

end Tangelo.C11
