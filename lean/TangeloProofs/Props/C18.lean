import TangeloModel.Histogram
import TangeloProofs.Lemmas.Counts
import TangeloProofs.Props.C16
/-!
# C18 — measurement grouping and histogram processing conserve information
-/
namespace Tangelo.C18
open Tangelo Hist

/-- weighted sum of a histogram: Σ w(key)·count  (w ≡ 1: total counts; w = ±1: expectation numerator) -/
def wsum (w : List Bool → Rat) (h : Hist) : Rat := (h.map (fun kv => w kv.1 * kv.2)).sum

theorem wsum_addTo (w : List Bool → Rat) (d : Hist) (k : List Bool) (v : Rat) : wsum w (addTo d k v) = wsum w d + w k * v :=
  sum_addTo w d k v

/-- merging the entries under any re-keying `f` preserves every weighted sum that only depends on the new key -/
theorem wsum_rekey (w : List Bool → Rat) (f : List Bool → List Bool) (h : Hist) (acc : Hist) :
    wsum w (h.foldl (fun a (kv : List Bool × Rat) => addTo a (f kv.1) kv.2) acc) = wsum w acc + wsum (fun k => w (f k)) h :=
  sum_foldl_addTo w (fun kv => f kv.1) h acc

theorem total_eq_wsum (h : Hist) : total h = wsum (fun _ => 1) h := by simp [total, wsum]

theorem signedSum_eq_wsum (mask : List Nat) (h : Hist) :
    signedSum mask h = wsum (fun k => if parityOn mask k then -1 else 1) h :=
  congrArg List.sum (List.map_congr_left fun kv _ => by split; simp)

/-- **removing / marginalising qubits conserves the total** -/
theorem remove_total (idx : List Nat) (h : Hist) : total (removeIdx idx h) = total h := by
  rw [removeIdx, total_foldl_addTo, total_nil, zero_add]

/-- **bit-order reversal conserves the total** -/
theorem reverse_total (h : Hist) : total (reverseKeys h) = total h := by
  simp [total, reverseKeys, List.map_map, Function.comp_def]

theorem filter_split (p : List Bool → Bool) (h : Hist) :
    total (h.filter (fun kv => p kv.1)) + total (h.filter (fun kv => !p kv.1)) = total h := by
  simpa [total] using List.sum_map_filter_add_sum_map_filter_not (fun kv : List Bool × Rat => p kv.1 = true) (·.2) h

/-- **post-selection splits the total**: kept + discarded = total -/
theorem post_select_total (exp : List (Nat × Bool)) (h : Hist) :
    total (postSelect exp h) + total (h.filter (fun kv => !matchesExp exp kv.1)) = total h := by
  rw [postSelect, remove_total]
  exact filter_split (matchesExp exp) h

theorem merge_total (h acc : Hist) :
    total (h.foldl (fun a (kv : List Bool × Rat) => addTo a kv.1 kv.2) acc) = total acc + total h :=
  total_foldl_addTo (·.1) h acc

theorem aggregate_total_of_pos (hs : List Hist)
    (hpos : ∀ kv ∈ hs.foldl (fun acc h => h.foldl (fun a (kv : List Bool × Rat) => addTo a kv.1 kv.2) acc) [], kv.2 > 0) :
    total (aggregate hs) = (hs.map total).sum := by
  rw [aggregate, List.filter_eq_self.mpr (by intro kv hkv; simpa using hpos kv hkv),
    foldl_add_of_step total total _ (fun acc h => merge_total h acc), total_nil, zero_add]

theorem aggregate_total_two (h1 h2 : Hist)
    (hpos : ∀ kv ∈ (h2.foldl (fun a (kv : List Bool × Rat) => addTo a kv.1 kv.2) (h1.foldl (fun a (kv : List Bool × Rat) => addTo a kv.1 kv.2) [])), kv.2 > 0) :
    total (aggregate [h1, h2]) = total h1 + total h2 :=
  (aggregate_total_of_pos [h1, h2] hpos).trans (by simp)

theorem addTo_pos (d : Hist) (k : List Bool) (v : Rat) (hd : ∀ kv ∈ d, kv.2 > 0) (hv : v > 0) :
    ∀ kv ∈ addTo d k v, kv.2 > 0 := by
  induction d with
  | nil => simpa [addTo] using hv
  | cons p rest ih =>
    obtain ⟨hp, hrest⟩ := List.forall_mem_cons.mp hd
    rw [addTo]
    split
    · exact List.forall_mem_cons.mpr ⟨add_pos hp hv, hrest⟩
    · exact List.forall_mem_cons.mpr ⟨hp, ih hrest⟩

theorem merge_pos (h acc : Hist) (hh : ∀ kv ∈ h, kv.2 > 0) (ha : ∀ kv ∈ acc, kv.2 > 0) :
    ∀ kv ∈ h.foldl (fun a (kv : List Bool × Rat) => addTo a kv.1 kv.2) acc, kv.2 > 0 :=
  List.foldlRecOn h _ ha fun a ha p hp => addTo_pos a p.1 p.2 ha (hh p hp)

/-- **aggregation of any number of histograms adds the totals**, provided all counts are positive (`Counter` addition
    drops non-positive entries) -/
theorem aggregate_total (hs : List Hist) (hpos : ∀ h ∈ hs, ∀ kv ∈ h, kv.2 > 0) :
    total (aggregate hs) = (hs.map total).sum :=
  aggregate_total_of_pos hs <| List.foldlRecOn hs _ (by simp) fun acc ha h hh => merge_pos h acc (hpos h hh) ha

/-- **marginalisation invariance**: if the parity of a term on the shortened bitstring equals its parity on the
    full bitstring (the removed qubits are outside the term's support), removing those qubits leaves the
    signed sum unchanged. -/
theorem marginal_invariance (idx mask mask' : List Nat) (h : Hist)
    (hpar : ∀ kv ∈ h, parityOn mask' (dropIdx idx kv.1) = parityOn mask kv.1) :
    signedSum mask' (removeIdx idx h) = signedSum mask h := by
  rw [signedSum_eq_wsum, signedSum_eq_wsum, removeIdx, wsum_rekey]
  simp only [wsum, List.map_nil, List.sum_nil, zero_add]
  exact congrArg List.sum (List.map_congr_left fun kv hkv => by rw [hpar kv hkv])

/-- the expectation value (signed sum / total) is unchanged too, by `remove_total` -/
theorem marginal_expectation (idx mask mask' : List Nat) (h : Hist)
    (hpar : ∀ kv ∈ h, parityOn mask' (dropIdx idx kv.1) = parityOn mask kv.1) :
    expectation mask' (removeIdx idx h) = expectation mask h := by
  simp only [expectation, marginal_invariance idx mask mask' h hpar, remove_total]

/-- value of a term list under any assignment of term expectation values (`C16.evalT v (RingHom.id Cyc)`: the
    coefficients are read in `Cyc` itself) -/
def evalTerms (v : Key → Cyc) (ts : List (Key × Cyc)) : Cyc := (ts.map (fun kc => kc.2 * v kc.1)).sum

theorem isZero_iff (z : Cyc) : z.isZero = true ↔ z = 0 := C16.isZero_iff z

theorem evalTerms_addTerm (v : Key → Cyc) (ts : List (Key × Cyc)) (k : Key) (c : Cyc) :
    evalTerms v (SymOp.addTerm ts k c) = evalTerms v ts + c * v k :=
  C16.evalT_addTerm v (RingHom.id Cyc) ts k c

theorem evalTerms_addTerms (v : Key → Cyc) (a b : List (Key × Cyc)) :
    evalTerms v (SymOp.addTerms a b) = evalTerms v a + evalTerms v b :=
  C16.evalT_addTerms v (RingHom.id Cyc) a b

/-- **grouping soundness**: if the certificate check accepts, then for ANY values of the term expectations the
    sum assembled group by group equals the term-by-term value of the operator (of the three tests of the check only
    the first, merged group terms = operator terms, is used) -/
theorem check_sound (op : List (Key × Cyc)) (groups : List (Key × List (Key × Cyc))) (v : Key → Cyc)
    (h : checkGrouping op groups = true) :
    evalTerms v (groups.flatMap (·.2)) = evalTerms v op := by
  simp only [checkGrouping, Bool.and_eq_true, beq_iff_eq] at h
  have e := evalTerms_addTerms v [] (groups.flatMap (·.2))
  rw [h.1.1, evalTerms_addTerms] at e
  simpa [evalTerms] using e.symm

example : total (removeIdx [1] [([true, false], 3), ([true, true], 2), ([false, true], 1)]) = 6 := by decide +kernel
example : removeIdx [1] [([true, false], 3), ([true, true], 2), ([false, true], 1)] = [([true], 5), ([false], 1)] := by decide +kernel

end Tangelo.C18
