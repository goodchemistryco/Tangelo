import TangeloModel.VqeMachine
import Mathlib.Algebra.Order.Ring.Defs
import Mathlib.Algebra.Order.Field.Basic
import Mathlib.Tactic.Ring
import Mathlib.Tactic.NormNum
import Mathlib.Algebra.BigOperators.Group.List.Basic
import Mathlib.Algebra.BigOperators.Ring.List
import Mathlib.Algebra.Order.BigOperators.Group.List
import TangeloProofs.Lemmas.ListSum
/-!
# C08 — variational solver energies are faithful and variational

Model: `Tangelo.Vqe` (bookkeeping of `VQESolver.energy_estimation` / `operator_expectation`).
The numerical evaluation of an operator on the circuit is the backend's job (C01/C02); here: *which*
operator and *which* parameters every request evaluates, for every request history, the deflation
arithmetic, and the variational bound in the eigenbasis.
-/
namespace Tangelo.C08
open Tangelo Tangelo.Vqe

theorem body_ham (s : St) (θ : Nat) (f : Fail) : (body s θ f).1.ham = s.ham := by
  cases f <;> rfl

/-- one request never changes the target operator: energy evaluation does not touch it, a symmetry
    request swaps it and restores it, also when writing the parameters or evaluating raises -/
theorem step_ham (s : St) (r : Req) : (step s r).1.ham = s.ham := by
  cases r with
  | energy θ => rfl
  | expect op θ f => cases f <;> rfl

/-- after any history the target is the operator the solver was built with -/
theorem run_ham (s : St) (rs : List Req) : (run step s rs).1.ham = s.ham := by
  induction rs generalizing s with
  | nil => rfl
  | cons r rs ih =>
    rw [run, ih, step_ham]

/-- every energy reported along any history is an evaluation of the *original* operator -/
theorem energies_use_original (s : St) (rs : List Req) (h : Int) (θ : Nat)
    (hm : Out.energy h θ ∈ (run step s rs).2) : h = s.ham := by
  induction rs generalizing s with
  | nil => simp [run] at hm
  | cons r rs ih =>
    simp only [run, List.mem_cons] at hm
    rcases hm with hm | hm
    · cases r with
      | energy θ' => simp only [step] at hm; injection hm with h1 _
      | expect op θ' f =>
        cases f <;> simp [step, swapIn, body] at hm
    · have := ih (step s r).1 hm
      rw [this, step_ham]

/-- a symmetry request that succeeds evaluates exactly the requested operator at the requested parameters -/
theorem expect_evaluates_request (s : St) (op : Int) (θ : Nat) :
    (step s (.expect op θ .none)).2 = .expect op θ := rfl

theorem expect_state (s : St) (op : Int) (θ : Nat) :
    (step s (.expect op θ .none)).1 = { s with params := some θ } := rfl

theorem failing_request_raises (s : St) (op : Int) (θ : Nat) (f : Fail) (hf : f ≠ .none) :
    (step s (.expect op θ f)).2 = .raised := by
  cases f
  · exact absurd rfl hf
  all_goals rfl

theorem log_counts_energies (s : St) (rs : List Req) :
    (run step s rs).1.nLog = s.nLog + (rs.filter (fun r => match r with | .energy _ => true | _ => false)).length := by
  induction rs generalizing s with
  | nil => rfl
  | cons r rs ih =>
    rw [run, ih]
    cases r with
    | energy θ => simp [step]; omega
    | expect op θ f =>
      have : (step s (.expect op θ f)).1.nLog = s.nLog := by cases f <;> rfl
      simp [this]

/-- without the `finally` the invariant is false: a request failing after the swap leaves the requested
    operator as the target, and the next "energy" is that of the wrong operator -/
theorem no_restore_counterexample :
    (run stepNoRestore { ham := 0, params := none, nLog := 0 } [.expect 7 0 .eval, .energy 0]).2
      = [.raised, .energy 7 0] := by decide

section
variable {R : Type} [CommRing R]

/-- the deflation loop adds `coeff · Σ overlaps` to the plain energy -/
theorem deflated_eq (base coeff : R) (ov : List R) : deflated base coeff ov = base + coeff * ov.sum := by
  rw [deflated, foldl_add_eq_sum, List.sum_map_mul_left, List.map_id']

theorem deflated_nil (base coeff : R) : deflated base coeff [] = base := rfl

theorem deflated_perm (base coeff : R) (a b : List R) (h : a.Perm b) : deflated base coeff a = deflated base coeff b := by
  rw [deflated_eq, deflated_eq, h.sum_eq]
end

section
variable {K : Type} [Field K] [LinearOrder K] [IsStrictOrderedRing K]

omit [LinearOrder K] [IsStrictOrderedRing K] in
theorem weightedAvg_eq (ps : List (K × K)) : weightedAvg ps = (ps.map (fun pl => pl.1 * pl.2)).sum :=
  (foldl_add_eq_sum _ ps 0).trans (zero_add _)

theorem weightedAvg_ge (ps : List (K × K)) (m : K) (hp : ∀ pl ∈ ps, 0 ≤ pl.1) (hl : ∀ pl ∈ ps, m ≤ pl.2) :
    m * (ps.map Prod.fst).sum ≤ weightedAvg ps := by
  rw [weightedAvg_eq, ← List.sum_map_mul_left]
  exact List.sum_le_sum fun pl h => (mul_comm m pl.1).trans_le (mul_le_mul_of_nonneg_left (hl pl h) (hp pl h))

/-- variational principle: for a normalised state (weights summing to 1) the energy is never below the
    lowest eigenvalue -/
theorem variational_bound (ps : List (K × K)) (m : K) (hp : ∀ pl ∈ ps, 0 ≤ pl.1) (hl : ∀ pl ∈ ps, m ≤ pl.2)
    (hn : (ps.map Prod.fst).sum = 1) : m ≤ weightedAvg ps := by
  simpa only [hn, mul_one] using weightedAvg_ge ps m hp hl

/-- `ho`: the overlaps are probabilities -/
theorem deflated_ge (base coeff : K) (ov : List K) (hc : 0 ≤ coeff) (ho : ∀ o ∈ ov, 0 ≤ o) :
    base ≤ deflated base coeff ov := by
  rw [deflated_eq]
  exact le_add_of_nonneg_right (mul_nonneg hc (List.sum_nonneg ho))
end

example : (run step { ham := 3, params := none, nLog := 0 } [.energy 1, .expect 9 2 .none, .expect 9 2 .eval, .energy 2]).2
    = [.energy 3 1, .expect 9 2, .raised, .energy 3 2] := by decide
example : weightedAvg [((1 : ℚ) / 4, -1), (3 / 4, 2)] = 5 / 4 := by norm_num [weightedAvg]
example : deflated (1 : ℚ) 2 [1 / 2, 1 / 4] = 5 / 2 := by norm_num [deflated]

end Tangelo.C08
