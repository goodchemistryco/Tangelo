import TangeloModel.Qft
import TangeloProofs.Lemmas.Commute
import TangeloProofs.CycLaws
import Mathlib.Tactic.Ring
import Mathlib.Tactic.NormNum
import Mathlib.Tactic.FieldSimp
import Mathlib.Data.List.Nodup
/-!
# C20 — Fourier transform, state initialisation and phase estimation are exact

* structure of the QFT gate list: the `inverse=True` list is the gate-by-gate inverse of the forward list
  and cancels it on every register (semantics of `TangeloModel.Sem`);
* the iterative phase-estimation controller returns the binary expansion of every representable phase,
  on every shot;
* bitstring → phase decoding;
* multiplexor identities used by the state-preparation recursion.
-/
namespace Tangelo.C20
open Tangelo Tangelo.Qft

section qft
variable {A : Type}

theorem swaps_inv (neg : A → A) (qs : List Nat) : (swaps qs : List (QG A)).map (QG.inv neg) = swaps qs := by
  rw [swaps, List.map_map]; rfl

theorem qft_forward_noswap (ang : Nat → A) (neg : A → A) (qs : List Nat) : qft ang neg qs false false = rotations ang qs :=
  List.append_nil _

theorem qft_forward_swap (ang : Nat → A) (neg : A → A) (qs : List Nat) :
    qft ang neg qs false true = rotations ang qs ++ swaps qs := rfl

/-- without the register swap the `inverse=True` list is literally the inverse of the forward list -/
theorem qft_inverse_noswap (ang : Nat → A) (neg : A → A) (qs : List Nat) :
    qft ang neg qs true false = invList neg (qft ang neg qs false false) := by
  simp [qft, invList]

theorem qft_inverse_swap (ang : Nat → A) (neg : A → A) (qs : List Nat) :
    qft ang neg qs true true = swaps qs ++ invList neg (rotations ang qs) := by
  simp [qft, invList]

/-- differs from the `inverse=True` list (`qft_inverse_swap`) by the order of the swaps only -/
theorem invList_forward_swap (ang : Nat → A) (neg : A → A) (qs : List Nat) :
    invList neg (qft ang neg qs false true) = (swaps qs).reverse ++ invList neg (rotations ang qs) := by
  rw [qft_forward_swap, invList, List.map_append, List.reverse_append, swaps_inv, invList]

theorem invList_invList (neg : A → A) (hn : ∀ a, neg (neg a) = a) (l : List (QG A)) : invList neg (invList neg l) = l := by
  have h1 : ∀ g : QG A, QG.inv neg (QG.inv neg g) = g := by intro g; cases g <;> simp [QG.inv, hn]
  simp [invList, List.map_reverse, List.map_map, Function.comp_def, h1]

theorem rotationsRev_length (ang : Nat → A) (r : List Nat) :
    (rotationsRev ang r).length = r.length + r.length * (r.length - 1) / 2 := by
  induction r with
  | nil => rfl
  | cons q r ih =>
    simp only [rotationsRev, List.length_append, List.length_cons, List.length_map, List.length_zipIdx,
      List.length_reverse, ih, Nat.triangle_succ]
    omega

/-- gate count: n Hadamards and n(n−1)/2 controlled phases -/
theorem rotations_length (ang : Nat → A) (qs : List Nat) :
    (rotations ang qs).length = qs.length + qs.length * (qs.length - 1) / 2 := by
  rw [rotations, rotationsRev_length, List.length_reverse]

theorem swaps_length (qs : List Nat) : (swaps qs : List (QG A)).length = qs.length / 2 := by
  rw [swaps, List.length_map, List.length_range]

def _root_.Tangelo.Qft.QG.qubits : QG A → List Nat
  | .h t => [t]
  | .cp c t _ => [c, t]
  | .swap a b => [a, b]

theorem mem_rotationsRev {ang : Nat → A} {r : List Nat} {g : QG A} (hg : g ∈ rotationsRev ang r) :
    (∃ t ∈ r, g = .h t) ∨ ∃ c t a, g = .cp c t a ∧ [t, c].Sublist r := by
  induction r with
  | nil => simp [rotationsRev] at hg
  | cons last r ih =>
    simp only [rotationsRev, List.cons_append, List.mem_cons, List.mem_append, List.mem_map] at hg
    rcases hg with rfl | ⟨qi, hqi, rfl⟩ | hg
    · exact .inl ⟨last, List.mem_cons_self, rfl⟩
    · have hm : qi.1 ∈ r := List.mem_reverse.mp (List.fst_mem_of_mem_zipIdx hqi)
      exact .inr ⟨_, _, _, rfl, .cons_cons _ (List.singleton_sublist.mpr hm)⟩
    · rcases ih hg with ⟨t, ht, rfl⟩ | ⟨c, t, a, rfl, hs⟩
      · exact .inl ⟨t, List.mem_cons_of_mem _ ht, rfl⟩
      · exact .inr ⟨c, t, a, rfl, hs.cons _⟩

theorem rotationsRev_qubits (ang : Nat → A) (r : List Nat) : ∀ g ∈ rotationsRev ang r, ∀ q ∈ g.qubits, q ∈ r := by
  intro g hg q hq
  rcases mem_rotationsRev hg with ⟨t, ht, rfl⟩ | ⟨c, t, a, rfl, hs⟩
  · exact List.mem_singleton.mp hq ▸ ht
  · exact hs.subset (by simpa [QG.qubits, or_comm] using hq)

theorem rotations_qubits (ang : Nat → A) (qs : List Nat) : ∀ g ∈ rotations ang qs, ∀ q ∈ g.qubits, q ∈ qs :=
  fun g hg q hq => List.mem_reverse.mp (rotationsRev_qubits ang qs.reverse g hg q hq)

def _root_.Tangelo.Qft.QG.wf : QG A → Prop
  | .cp c t _ => t ≠ c
  | _ => True

theorem rotationsRev_wf (ang : Nat → A) (r : List Nat) (hn : r.Nodup) : ∀ g ∈ rotationsRev ang r, g.wf := by
  intro g hg
  rcases mem_rotationsRev hg with ⟨t, _, rfl⟩ | ⟨c, t, a, rfl, hs⟩
  · trivial
  · simpa [QG.wf] using hn.sublist hs

theorem rotations_wf (ang : Nat → A) (qs : List Nat) (hn : qs.Nodup) : ∀ g ∈ rotations ang qs, g.wf :=
  rotationsRev_wf ang qs.reverse (List.nodup_reverse.mpr hn)

variable {R : Type} [CommRing R]

/-- meaning of the generated gates; `ph a` = e^{i a}.  Not routed through `Op.sem`: the angles π/2^j are not in `Ang`
    for j > 2, so the angle type is abstract and the phase is read through `ph` -/
def semG (k : Consts R) (ph : A → R) : QG A → State R → State R
  | .h t => app1 (baseMatrix k .H 0) t
  | .cp c t a => ctl [c] (app1 ⟨1, 0, 0, ph a⟩ t)
  | .swap a b => appSwap a b

def semL (k : Consts R) (ph : A → R) (l : List (QG A)) (ψ : State R) : State R :=
  l.foldl (fun acc g => semG k ph g acc) ψ

theorem semL_append (k : Consts R) (ph : A → R) (l l' : List (QG A)) (ψ : State R) :
    semL k ph (l ++ l') ψ = semL k ph l' (semL k ph l ψ) := by simp [semL]

theorem appSwap_appSwap (a b : Nat) (ψ : State R) : appSwap a b (appSwap a b ψ) = ψ := by
  funext x; simp [appSwap, Bits.swap_swap]

theorem semG_inv (k : Consts R) (L : k.Laws) (ph : A → R) (neg : A → A) (hph : ∀ a, ph (neg a) * ph a = 1)
    (g : QG A) (hwf : g.wf) (ψ : State R) : semG k ph (g.inv neg) (semG k ph g ψ) = ψ := by
  cases g with
  | h t =>
    simp only [QG.inv, semG]
    rw [app1_app1, show (baseMatrix k .H 0).mul (baseMatrix k .H 0) = M2.one from base_inverse k L .H 0, app1_one]
  | cp c t a =>
    have hm : (⟨1, 0, 0, ph (neg a)⟩ : M2 R).mul ⟨1, 0, 0, ph a⟩ = M2.one := by
      simp only [M2.mul, M2.one, mul_zero, zero_mul, mul_one, add_zero, zero_add, hph]
    simp only [QG.inv, semG]
    rw [ctl_app1_app1 [c] _ _ t (fun h => hwf (List.mem_singleton.mp h)), hm, ctl_app1_one]
  | swap a b => exact appSwap_appSwap a b ψ

theorem invList_cancels (k : Consts R) (L : k.Laws) (ph : A → R) (neg : A → A) (hph : ∀ a, ph (neg a) * ph a = 1)
    (l : List (QG A)) (hwf : ∀ g ∈ l, g.wf) (ψ : State R) : semL k ph (invList neg l) (semL k ph l ψ) = ψ :=
  foldl_inv_cancel _ (QG.inv neg) l (fun g hg ψ => semG_inv k L ph neg hph g (hwf g hg) ψ) ψ

/-- **the `inverse` option gives the inverse** (swap off): QFT followed by the `inverse=True` circuit is the identity on
    every register that contains the (distinct) listed qubits -/
theorem qft_inverse_cancels_noswap (k : Consts R) (L : k.Laws) (ph : A → R) (ang : Nat → A) (neg : A → A)
    (hph : ∀ a, ph (neg a) * ph a = 1) (qs : List Nat) (hn : qs.Nodup) (ψ : State R) :
    semL k ph (qft ang neg qs true false) (semL k ph (qft ang neg qs false false) ψ) = ψ := by
  rw [qft_inverse_noswap, qft_forward_noswap]
  exact invList_cancels k L ph neg hph _ (rotations_wf ang qs hn) ψ

/-- the other order: the two circuits are mutually inverse bijections -/
theorem qft_forward_cancels_noswap (k : Consts R) (L : k.Laws) (ph : A → R) (ang : Nat → A) (neg : A → A)
    (hph : ∀ a, ph (neg a) * ph a = 1) (hn2 : ∀ a, neg (neg a) = a) (qs : List Nat) (hn : qs.Nodup) (ψ : State R) :
    semL k ph (qft ang neg qs false false) (semL k ph (qft ang neg qs true false) ψ) = ψ := by
  rw [qft_inverse_noswap, qft_forward_noswap]
  -- the inverted ladder is well formed as well, and its gate-by-gate inverse is the ladder
  have h := invList_cancels k L ph neg hph (invList neg (rotations ang qs)) (fun g hg => by
    obtain ⟨g', hg', rfl⟩ := List.mem_map.mp (List.mem_reverse.mp hg)
    have := rotations_wf ang qs hn g' hg'
    cases g' <;> exact this) ψ
  rwa [invList_invList neg hn2] at h

section swapcase
variable {A : Type} {R : Type} [CommRing R]

theorem Bits.swap_comm_disjoint (x : Bits) (a b c d : Nat) (h1 : a ≠ c) (h2 : a ≠ d) (h3 : b ≠ c) (h4 : b ≠ d) :
    (x.swap a b).swap c d = (x.swap c d).swap a b := by
  funext r; simp only [Bits.swap]; grind

theorem appSwap_comm (a b c d : Nat) (h1 : a ≠ c) (h2 : a ≠ d) (h3 : b ≠ c) (h4 : b ≠ d) (ψ : State R) :
    appSwap a b (appSwap c d ψ) = appSwap c d (appSwap a b ψ) := by
  funext x
  exact congrArg ψ (Bits.swap_comm_disjoint x a b c d h1 h2 h3 h4)

def DisjSwap : QG A → QG A → Prop
  | .swap a b, .swap c d => a ≠ c ∧ a ≠ d ∧ b ≠ c ∧ b ≠ d
  | _, _ => False

def IsSwap : QG A → Prop
  | .swap _ _ => True
  | _ => False

theorem semG_comm_list (k : Consts R) (ph : A → R) (g : QG A) (l : List (QG A)) (h : ∀ g' ∈ l, DisjSwap g g') (ψ : State R) :
    semG k ph g (semL k ph l ψ) = semL k ph l (semG k ph g ψ) := by
  refine foldl_comm_of_forall _ (semG k ph g) l (fun g' hg' ψ => ?_) ψ
  -- `DisjSwap` holds of two swaps only
  match g, g', h g' hg' with
  | .swap a b, .swap c d, hd => exact appSwap_comm a b c d hd.1 hd.2.1 hd.2.2.1 hd.2.2.2 ψ

theorem swap_layer_involution (k : Consts R) (ph : A → R) (l : List (QG A)) (hs : ∀ g ∈ l, IsSwap g)
    (hd : l.Pairwise DisjSwap) (ψ : State R) : semL k ph l (semL k ph l ψ) = ψ := by
  induction l generalizing ψ with
  | nil => rfl
  | cons g l ih =>
    obtain ⟨hg, hl⟩ := List.pairwise_cons.mp hd
    change semL k ph l (semG k ph g (semL k ph l (semG k ph g ψ))) = ψ
    rw [semG_comm_list k ph g l hg, ih (fun x hx => hs x (List.mem_cons_of_mem _ hx)) hl]
    match g, hs g List.mem_cons_self with
    | .swap a b, _ => exact appSwap_appSwap a b ψ

theorem getD_inj (qs : List Nat) (hn : qs.Nodup) (i j : Nat) (hi : i < qs.length) (hj : j < qs.length)
    (h : qs.getD i 0 = qs.getD j 0) : i = j := by
  simp only [List.getD_eq_getElem?_getD, List.getElem?_eq_getElem, hi, hj, Option.getD_some] at h
  exact hn.getElem_inj_iff.mp h

theorem swaps_isSwap (qs : List Nat) : ∀ g ∈ (swaps qs : List (QG A)), IsSwap g := by
  intro g hg
  obtain ⟨i, _, rfl⟩ := List.mem_map.mp hg
  trivial

theorem swaps_disjoint (qs : List Nat) (hn : qs.Nodup) : (swaps qs : List (QG A)).Pairwise DisjSwap := by
  refine List.pairwise_map.mpr (List.pairwise_lt_range.imp_of_mem fun {i j} hi hj hij => ?_)
  rw [List.mem_range] at hi hj
  -- the swaps number `i < j` act on the positions `i`, `n-1-i`, `j`, `n-1-j` of `qs` (`n` its length): four different
  -- positions, which hold different qubits
  obtain ⟨i0, i1, j0, j1, h1, h2, h3, h4⟩ : i < qs.length ∧ qs.length - i - 1 < qs.length ∧ j < qs.length ∧
      qs.length - j - 1 < qs.length ∧ i ≠ j ∧ i ≠ qs.length - j - 1 ∧ qs.length - i - 1 ≠ j ∧
      qs.length - i - 1 ≠ qs.length - j - 1 := by omega
  exact ⟨fun e => h1 (getD_inj qs hn _ _ i0 j0 e), fun e => h2 (getD_inj qs hn _ _ i0 j1 e),
    fun e => h3 (getD_inj qs hn _ _ i1 j0 e), fun e => h4 (getD_inj qs hn _ _ i1 j1 e)⟩

/-- **the `inverse` option gives the inverse, with the register swap** -/
theorem qft_inverse_cancels_swap (k : Consts R) (L : k.Laws) (ph : A → R) (ang : Nat → A) (neg : A → A)
    (hph : ∀ a, ph (neg a) * ph a = 1) (qs : List Nat) (hn : qs.Nodup) (ψ : State R) :
    semL k ph (qft ang neg qs true true) (semL k ph (qft ang neg qs false true) ψ) = ψ := by
  rw [qft_inverse_swap, qft_forward_swap, semL_append, semL_append,
    swap_layer_involution k ph (swaps qs) (swaps_isSwap qs) (swaps_disjoint qs hn)]
  exact invList_cancels k L ph neg hph (rotations ang qs) (rotations_wf ang qs hn) ψ

end swapcase

/-- the ladder in the same order with negated angles is not the `inverse=True` list, which also reverses the order -/
example : qft (fun j => (j : Int)) (fun a => -a) [0, 1] true false ≠
    (rotations (fun j => (j : Int)) [0, 1]).map (QG.inv (fun a => -a)) := by decide

end qft

section iqpe

/-- `return_gates` on a started controller records the measured bit; while `bitplace > 0` the bit also enters the
    feedback phase with weight `2^(n − bitplace)` and the next round is issued -/
theorem step_started (n b p : Nat) (r : List Bool) (meas : Bool) :
    (Ctl.mk n b p r true).step meas =
      if 0 < b then (⟨n, b - 1, p + (if meas then 2 ^ (n - b) else 0), r ++ [meas], true⟩, some (b - 1))
      else (⟨n, b, p, r ++ [meas], true⟩, none) := by
  cases meas <;> rfl

/-- controller state once `k` bits have been recorded and round `k` has been issued -/
def st (n m k : Nat) : Ctl := ⟨n, n - 1 - k, 2 * (m % 2 ^ k), (List.range k).map m.testBit, true⟩

theorem step_init (n m : Nat) (hn : 0 < n) : (Ctl.init n).step false = (st n m 0, some (n - 1)) := by
  simp [Ctl.step, Ctl.init, st, hn, Nat.mod_one]

theorem step_st (n m k : Nat) (hk : k + 1 < n) :
    (st n m k).step (m.testBit k) = (st n m (k + 1), some (n - 1 - (k + 1))) := by
  -- bit `k` enters the feedback phase `2 (m mod 2^k)` with weight `2^(k+1)`
  have key : 2 * (m % 2 ^ k) + (if m.testBit k then 2 ^ (k + 1) else 0) = 2 * (m % 2 ^ (k + 1)) := by
    rw [Nat.mod_pow_succ, ← Nat.toNat_testBit]
    cases m.testBit k <;> simp [pow_succ]
    ring
  rw [st, step_started, if_pos (by omega), show n - (n - 1 - k) = k + 1 by omega, key, Nat.sub_sub, st,
    List.range_succ, List.map_append]
  rfl

/-- final state of a shot -/
def fin (n m : Nat) : Ctl := ⟨n, 0, 2 * (m % 2 ^ (n - 1)), (List.range n).map m.testBit, true⟩

theorem step_last (n m : Nat) (hn : 0 < n) : (st n m (n - 1)).step (m.testBit (n - 1)) = (fin n m, none) := by
  obtain ⟨k, rfl⟩ : ∃ k, n = k + 1 := ⟨n - 1, by omega⟩
  show (st (k + 1) m k).step (m.testBit k) = _
  rw [st, step_started, Nat.add_sub_cancel, Nat.sub_self, if_neg (Nat.lt_irrefl 0), fin, List.range_succ, List.map_append]
  rfl

/-- **the outcome of every round is certain and equals the next bit of the phase** -/
theorem outcome_st (n m k : Nat) (hk : k < n) : outcome m (st n m k) (n - 1 - k) = some (m.testBit k) := by
  -- the feedback cancels the bits below `k`: the relative phase is `⌊m / 2^k⌋·π`
  have hnum : roundNum m (st n m k) (n - 1 - k) = (2 ^ n : Int) * ((m / 2 ^ k : Nat) : Int) := by
    have hp : (2 : Int) ^ n = 2 * 2 ^ k * 2 ^ (n - 1 - k) := by
      rw [← pow_succ', ← pow_add]; congr 1; omega
    rw [roundNum, st, hp]
    push_cast
    linear_combination (-2 * 2 ^ (n - 1 - k)) * Int.mul_ediv_add_emod (m : Int) (2 ^ k)
  have hpos : (2 ^ n : Int) ≠ 0 := by positivity
  simp only [outcome, hnum]
  simp only [st, Int.mul_emod_right, if_true, Int.mul_ediv_cancel_left _ hpos, Nat.testBit_eq_decide_div_mod_eq]
  congr 1
  exact decide_eq_decide.mpr (by omega)

theorem runShotFrom_st (n m : Nat) (d : Nat) : ∀ k fuel, k + d + 1 = n → d + 1 ≤ fuel →
    runShotFrom m fuel (st n m k) (m.testBit k) = some (fin n m) := by
  induction d with
  | zero =>
    rintro k (_ | f) hk hf
    · omega
    obtain rfl : k = n - 1 := by omega
    simp only [runShotFrom, step_last n m (by omega)]
  | succ d ih =>
    rintro k (_ | f) hk hf
    · omega
    simp only [runShotFrom, step_st n m k (by omega), outcome_st n m (k + 1) (by omega)]
    exact ih (k + 1) f (by omega) (by omega)

/-- **one shot returns the binary expansion of the phase**, least significant bit first -/
theorem runShot_exact (n m : Nat) (hn : 0 < n) : runShot m (Ctl.init n) = some (fin n m) := by
  have ho : outcome m (st n m 0) (n - 1) = some (m.testBit 0) := outcome_st n m 0 hn
  simp only [runShot, runShotFrom, step_init n m hn, ho]
  exact runShotFrom_st n m (n - 1) 0 (n + 1) (by omega) (by omega)

theorem finalize_fin (n m : Nat) : (fin n m).finalize = (Ctl.init n, (List.range n).map m.testBit) := rfl

/-- **every shot** of any number of shots returns the same exact record: the controller is fully reset -/
theorem runShots_exact (n m : Nat) (hn : 0 < n) (k : Nat) :
    runShots Ctl.finalize m k (Ctl.init n) = some (List.replicate k ((List.range n).map m.testBit)) := by
  induction k with
  | zero => rfl
  | succ k ih =>
    simp only [runShots, runShot_exact n m hn, finalize_fin, ih, Option.map_some, List.replicate_succ]

/-- if the feedback phase is not reset between shots the second shot is not exact -/
theorem keep_phase_counterexample :
    runShots Ctl.finalizeKeepPhase 5 2 (Ctl.init 3) ≠ some (List.replicate 2 ((List.range 3).map (Nat.testBit 5))) := by
  decide +kernel

end iqpe

section decode

theorem binFrac_append (xs : List Bool) (b : Bool) :
    binFrac (xs ++ [b]) = binFrac xs + (if b then 1 else 0) / 2 ^ (xs.length + 1) := by
  induction xs with
  | nil => simp [binFrac]
  | cons x xs ih => simp only [List.cons_append, binFrac, ih, List.length_cons]; ring

theorem natOfLSB_append (xs : List Bool) (b : Bool) :
    natOfLSB (xs ++ [b]) = natOfLSB xs + 2 ^ xs.length * (if b then 1 else 0) := by
  induction xs with
  | nil => simp [natOfLSB]
  | cons x xs ih => simp only [List.cons_append, natOfLSB, ih, List.length_cons]; ring

theorem binFrac_reverse (l : List Bool) : binFrac l.reverse = (natOfLSB l : Rat) / 2 ^ l.length := by
  induction l with
  | nil => simp [binFrac, natOfLSB]
  | cons b l ih =>
    simp only [List.reverse_cons, binFrac_append, ih, natOfLSB, List.length_reverse, List.length_cons]
    push_cast
    field_simp
    ring

theorem natOfLSB_bits (m n : Nat) : natOfLSB ((List.range n).map m.testBit) = m % 2 ^ n := by
  induction n with
  | zero => simp [natOfLSB, Nat.mod_one]
  | succ n ih =>
    rw [List.range_succ, List.map_append, List.map_singleton, natOfLSB_append, ih, List.length_map, List.length_range,
      Nat.mod_pow_succ, ← Nat.toNat_testBit]
    cases m.testBit n <;> rfl

/-- **decoding inverts the expansion**: the reversed iQPE record (and the QPE bitstring, most significant
    bit first) of a representable phase m / 2^n is read back as exactly m / 2^n -/
theorem decode_exact (m n : Nat) (hm : m < 2 ^ n) :
    binFrac ((List.range n).map m.testBit).reverse = (m : Rat) / 2 ^ n := by
  rw [binFrac_reverse, natOfLSB_bits, Nat.mod_eq_of_lt hm]
  simp

end decode

section mux
variable {R : Type} [CommRing R]

/-- select bit 0: the two half-angle rotations add up -/
theorem mux_select0 (k : Consts R) (L : k.Laws) (b : Base) (hb : b = .RY ∨ b = .RZ) (a c : Ang) :
    (baseMatrix k b a).mul (baseMatrix k b c) = baseMatrix k b (c + a) :=
  baseMatrix_add k L (by rcases hb with rfl | rfl <;> rfl) c a

/-- conjugation by X (the CNOT pair when the select bit is 1) reverses the rotation -/
theorem mux_conj_x (k : Consts R) (L : k.Laws) (b : Base) (hb : b = .RY ∨ b = .RZ) (c : Ang) :
    ((baseMatrix k .X 0).mul (baseMatrix k b c)).mul (baseMatrix k .X 0) = baseMatrix k b (-c) := by
  have hX : ∀ m : M2 R, ((baseMatrix k .X 0).mul m).mul (baseMatrix k .X 0) = ⟨m.d, m.c, m.b, m.a⟩ := by
    intro m; apply M2.ext' <;> simp only [baseMatrix, M2.mul] <;> ring1
  rw [hX]
  rcases hb with rfl | rfl
  · apply M2.ext' <;> simp only [baseMatrix, Consts.sinH, k.cosH_neg, k.misinH_neg, mul_neg, neg_neg]
  · simp only [baseMatrix, Ang.neg_neg']

/-- select bit 1: R(a) · X · R(c) · X = R(a − c); with a = (x + y)/2, c = (x − y)/2 the two select values give R(x) and
    R(y): the angle-weight matrix [[½, ½], [½, −½]] of the recursion -/
theorem mux_select1 (k : Consts R) (L : k.Laws) (b : Base) (hb : b = .RY ∨ b = .RZ) (a c : Ang) :
    (baseMatrix k b a).mul (((baseMatrix k .X 0).mul (baseMatrix k b c)).mul (baseMatrix k .X 0)) = baseMatrix k b (-c + a) := by
  rw [mux_conj_x k L b hb c, mux_select0 k L b hb a (-c)]

end mux

/-- `qft_inverse_cancels_noswap` at the executable constants `cycConsts` (amplitudes in ℚ(ζ₁₆)) -/
theorem qft_inverse_cancels_noswap_exec {A : Type} (ph : A → Cyc) (ang : Nat → A) (neg : A → A)
    (hph : ∀ a, ph (neg a) * ph a = 1) (qs : List Nat) (hn : qs.Nodup) (ψ : State Cyc) :
    semL cycConsts ph (qft ang neg qs true false) (semL cycConsts ph (qft ang neg qs false false) ψ) = ψ :=
  qft_inverse_cancels_noswap cycConsts cycConsts_laws ph ang neg hph qs hn ψ

example : qft (fun j => (j : Int)) (fun a => -a) [3, 1, 2] true true =
    [.swap 3 2, .h 3, .cp 3 1 (-1), .h 1, .cp 1 2 (-1), .cp 3 2 (-2), .h 2] := by decide +kernel
example : (runShot 5 (Ctl.init 4)).map (·.record) = some [true, false, true, false] := by decide +kernel
example : binFrac [true, false, true] = 5 / 8 := by norm_num [binFrac]

end Tangelo.C20
