import TangeloModel.Export
import TangeloProofs.Props.C11
/-!
# C17 — circuits survive export / import round trips
-/
namespace Tangelo.C17
open Tangelo Export Circuit

theorem lookup_mem {d : List (String × String)} {k v : String} (h : lookup d k = some v) : (k, v) ∈ d := by
  obtain ⟨p, hf, rfl⟩ := Option.map_eq_some_iff.mp h
  exact mem_of_find?_fst_eq_some hf

/-- the IonQ dictionary against the four branches of `ionqWrite` / `ionqRead`: a key falls in one branch only, and
    the reader's name computation, on the row's format name, returns the key (CNOT as CX) -/
theorem ionq_table :
    let A := ["H", "X", "Y", "Z", "S", "T", "SWAP"]; let B := ["RX", "RY", "RZ", "PHASE", "XX"]
    let C := ["CRX", "CRY", "CRZ", "CPHASE"]; let D := ["CX", "CY", "CZ", "CNOT"]
    let rot := fun j => if upperName j == "Z" then "PHASE" else upperName j
    ∀ p ∈ Tables.ionqGates,
      (A.contains p.1 → upperName p.2 = p.1) ∧
      (B.contains p.1 → A.contains p.1 = false ∧ rot p.2 = p.1) ∧
      (C.contains p.1 → A.contains p.1 = false ∧ B.contains p.1 = false ∧
        ["RX", "RY", "RZ", "PHASE"].contains (rot p.2) = true ∧ "C" ++ rot p.2 = p.1) ∧
      (D.contains p.1 → A.contains p.1 = false ∧ B.contains p.1 = false ∧ C.contains p.1 = false ∧
        ["X", "Y", "Z"].contains (upperName p.2) = true ∧
        (if ("C" ++ upperName p.2) == "CNOT" then "CX" else "C" ++ upperName p.2) = (if p.1 == "CNOT" then "CX" else p.1)) := by
  decide +kernel

/-- **IonQ JSON round trip**: every expressible gate (`ionqExpressible`) the writer accepts is read back as the same
    gate (CNOT ≡ CX, variational flag aside). -/
theorem ionq_roundtrip (g : Gate) (r : IonqRec) (hexp : ionqExpressible g = true) (h : ionqWrite g = some r) :
    ∃ g', ionqRead r = some g' ∧ sameGate g g' = true := by
  obtain ⟨nm, tgt, ctl, par, v⟩ := g
  simp only [ionqWrite] at h
  cases hl : lookup Tables.ionqGates nm with
  | none => simp [hl] at h
  | some j =>
    obtain ⟨tA, tB, tC, tD⟩ := ionq_table (nm, j) (lookup_mem hl)
    dsimp only at tA tB tC tD
    simp only [hl] at h
    simp only [ionqExpressible, Bool.or_eq_true, Bool.and_eq_true, Option.isNone_iff_eq_none, Option.isSome_iff_exists,
      beq_iff_eq] at hexp
    -- one case per branch of the writer; the facts of the table row that the case makes available evaluate the
    -- writer's if-chain and then the matching branch of the reader, without looking at the name again
    rcases hexp with ((⟨⟨hn, rfl⟩, rfl⟩ | ⟨hn, rfl⟩) | ⟨hn, cs, rfl⟩) | ⟨⟨hn, cs, rfl⟩, rfl⟩ <;>
    · simp only [*, if_true, Bool.false_eq_true, if_false, Option.some.injEq] at h
      subst h
      simp only [ionqRead, Option.isSome_none, Option.isSome_some, Bool.and_false, Bool.and_true, *,
        Bool.false_eq_true, if_false, if_true]
      exact ⟨_, rfl, by simp only [sameGate, *, beq_self_eq_true, Bool.and_self]⟩

theorem ionq_refuses (g : Gate) (h : lookup Tables.ionqGates g.name = none) : ionqWrite g = none := by
  simp [ionqWrite, h]

theorem projectq_dictionary_invertible :
    ∀ p ∈ Tables.projectqGates, pqReverse p.2 = some p.1 := by decide +kernel

/-- the ProjectQ dictionary against the three branches of `pqWrite` / `pqRead` (`A'` is the writer's first list, which
    has `MEASURE`; `A` the reader's, which has not) -/
theorem projectq_table :
    let A := ["H", "X", "Y", "Z", "S", "T"]; let A' := ["H", "X", "Y", "Z", "S", "T", "MEASURE"]
    let B := ["RX", "RY", "RZ", "PHASE"]; let B' := ["Rx", "Ry", "Rz", "R"]
    ∀ p ∈ Tables.projectqGates,
      (A.contains p.1 → A'.contains p.1 = true ∧ A.contains p.2 = true) ∧
      (B.contains p.1 → A'.contains p.1 = false ∧ A.contains p.2 = false ∧ B'.contains p.2 = true) ∧
      (p.1 = "CNOT" → A'.contains p.1 = false ∧ B.contains p.1 = false ∧ A.contains p.2 = false ∧
        B'.contains p.2 = false ∧ p.2 = "CX") := by
  decide +kernel

/-- **ProjectQ round trip** for every expressible gate -/
theorem projectq_roundtrip (g : Gate) (l : PqLine) (hexp : pqExpressible g = true) (h : pqWrite g = some l) :
    ∃ g', pqRead l = some g' ∧ sameGate g g' = true := by
  obtain ⟨nm, tgt, ctl, par, v⟩ := g
  simp only [pqWrite] at h
  cases hl : lookup Tables.projectqGates nm with
  | none => simp [hl] at h
  | some j =>
    have hrev : pqReverse j = some nm := projectq_dictionary_invertible _ (lookup_mem hl)
    obtain ⟨t1, t2, t3⟩ := projectq_table (nm, j) (lookup_mem hl)
    dsimp only at t1 t2 t3
    simp only [hl] at h
    simp only [pqExpressible, Bool.or_eq_true, Bool.and_eq_true, Option.isNone_iff_eq_none, beq_iff_eq,
      Option.map_eq_some_iff, List.length_eq_one_iff] at hexp
    -- one case per branch of the writer, closed by the facts of the table row as in `ionq_roundtrip`
    rcases hexp with (⟨⟨⟨hn, rfl⟩, t, rfl⟩, rfl⟩ | ⟨⟨hn, rfl⟩, t, rfl⟩) | ⟨⟨⟨rfl, t, rfl⟩, _, rfl, c, rfl⟩, rfl⟩ <;>
    · simp only [*, beq_self_eq_true, if_true, Bool.false_eq_true, if_false, List.head?_cons, Option.map_some,
        Option.some.injEq] at h
      subst h
      simp only [pqRead, *, beq_self_eq_true, Bool.false_eq_true, if_false, if_true]
      exact ⟨_, rfl, by simp [sameGate]⟩

theorem sameGate_qubits (g g' : Gate) (h : sameGate g g' = true) : g'.qubits = g.qubits := by
  simp only [sameGate, Bool.and_eq_true, beq_iff_eq] at h
  simp [Gate.qubits, h.1.1.2, h.1.2]

theorem mapOpt_cons {α β : Type} (f : α → Option β) (a : α) (l : List α) :
    mapOpt f (a :: l) = (f a).bind fun b => (mapOpt f l).map (b :: ·) := by
  rw [mapOpt]; cases f a <;> cases mapOpt f l <;> rfl

theorem mapOpt_eq_some {α β : Type} {f : α → Option β} {l : List α} {ys : List β} :
    mapOpt f l = some ys ↔ l.map f = ys.map some := by
  induction l generalizing ys with
  | nil => cases ys <;> simp [mapOpt]
  | cons a l ih => cases ys <;> simp [mapOpt_cons, Option.bind_eq_some_iff, ih]

theorem mapOpt_roundtrip {α : Type} (w : Gate → Option α) (r : α → Option Gate) (P : Gate → Prop)
    (hrt : ∀ g x, P g → w g = some x → ∃ g', r x = some g' ∧ sameGate g g' = true)
    (gs : List Gate) (xs : List α) (hP : ∀ g ∈ gs, P g) (h : mapOpt w gs = some xs) :
    ∃ gs', mapOpt r xs = some gs' ∧ sameGates gs gs' = true := by
  induction gs generalizing xs with
  | nil => cases h; exact ⟨[], rfl, rfl⟩
  | cons g gs ih =>
    simp only [mapOpt_cons, Option.bind_eq_some_iff, Option.map_eq_some_iff] at h
    obtain ⟨x, hw, xs', hm, rfl⟩ := h
    rw [List.forall_mem_cons] at hP
    obtain ⟨g', hr, hs⟩ := hrt g x hP.1 hw
    obtain ⟨gs', hr', hs'⟩ := ih xs' hP.2 hm
    exact ⟨g' :: gs', by simp [mapOpt, hr, hr'], by simp [sameGates, hs, hs']⟩

theorem forall₂_qubits (gs gs' : List Gate) (h : sameGates gs gs' = true) (n : Nat)
    (hb : ∀ g ∈ gs, ∀ q ∈ g.qubits, q < n) : ∀ g ∈ gs', ∀ q ∈ g.qubits, q < n := by
  induction gs generalizing gs' with
  | nil => cases gs' <;> simp [sameGates] at h ⊢
  | cons a as ih =>
    cases gs' with
    | nil => simp [sameGates] at h
    | cons b bs =>
      simp only [sameGates, Bool.and_eq_true] at h
      simp only [List.forall_mem_cons] at hb ⊢
      exact ⟨sameGate_qubits _ _ h.1 ▸ hb.1, ih bs h.2 hb.2⟩

theorem addGates_ok (gs : List Gate) (c : Circuit) (n : Nat) (hf : c.fixed = some n)
    (hb : ∀ g ∈ gs, ∀ q ∈ g.qubits, q < n) : ∃ c', c.addGates gs = .ok c' :=
  ⟨_, addGates_eq_ok.mpr ⟨fun g hg => addGateBad_of_lt hf (hb g hg), rfl⟩⟩

theorem addGates_free_ok (gs : List Gate) (c : Circuit) (hf : c.fixed = Option.none) : ∃ c', c.addGates gs = .ok c' :=
  ⟨_, addGates_eq_ok.mpr ⟨fun g _ => addGateBad_of_none g hf, rfl⟩⟩

/-- what a reader rebuilds: the gates `gs'` in a register of the written width `w`.  `if w = 0 then none else some w`
    is the register both readers arrive at: `Circuit(n_qubits=0)` has no fixed width (0 is falsy), and the ProjectQ
    reader finds no `Allocate` line to take a maximum of -/
theorem rebuilt_width (gs' : List Gate) (w : Nat) (hb : ∀ g ∈ gs', ∀ q ∈ g.qubits, q < w) (hw0 : w = 0 → gs' = []) :
    ∃ c', Circuit.ofGates gs' (if w = 0 then Option.none else some w) = .ok c' ∧ c'.width = w ∧ c'.gates = gs' := by
  cases w with
  | zero => cases hw0 rfl; exact ⟨Circuit.empty Option.none, rfl, rfl, rfl⟩
  | succ n =>
    obtain ⟨c', hc'⟩ := addGates_ok gs' (Circuit.empty (some (n + 1))) (n + 1) rfl hb
    exact ⟨c', hc', C11.width_ofGates_fixed gs' n c' hc', Circuit.gates_ofGates hc'⟩

theorem fixed_addGates (gs : List Gate) (c c' : Circuit) (h : c.addGates gs = .ok c') : c'.fixed = c.fixed :=
  (addGates_eq_ok.mp h).2 ▸ fixed_foldl gs c

theorem width_zero_no_gates (c : Circuit) (hc : c.Inv) (hq : ∀ g ∈ c.gates, g.qubits ≠ []) (hw : c.width = 0) : c.gates = [] := by
  refine List.eq_nil_iff_forall_not_mem.mpr fun g hg => ?_
  obtain ⟨q, hq'⟩ := List.exists_mem_of_ne_nil _ (hq g hg)
  have := C11.used_lt_width c hc g hg q hq'
  omega

theorem sameGates_nil_left (gs' : List Gate) (h : sameGates [] gs' = true) : gs' = [] := by
  cases gs' <;> simp [sameGates] at h ⊢

theorem rebuilt_same (c : Circuit) (hc : c.Inv) (hq : ∀ g ∈ c.gates, g.qubits ≠ []) (gs' : List Gate)
    (hs : sameGates c.gates gs' = true) :
    (∀ g ∈ gs', ∀ q ∈ g.qubits, q < c.width) ∧ ∃ c', Circuit.ofGates gs' (if c.width = 0 then Option.none else some c.width) = .ok c' ∧
      c'.width = c.width ∧ sameGates c.gates c'.gates = true := by
  have hb := forall₂_qubits _ _ hs c.width (C11.used_lt_width c hc)
  obtain ⟨c', hc', hwid, hg'⟩ := rebuilt_width gs' c.width hb fun h0 =>
    sameGates_nil_left _ (width_zero_no_gates c hc hq h0 ▸ hs)
  exact ⟨hb, c', hc', hwid, hg' ▸ hs⟩

/-- `Circuit(n_qubits=w) + d` for a `d` without fixed width that fits in `w` qubits -/
theorem add_empty_fixed (w : Nat) (d : Circuit) (hdf : d.fixed = Option.none) (hdw : d.width ≤ w) :
    (Circuit.empty (some w)).add d = Circuit.ofGates d.gates (if w = 0 then Option.none else some w) := by
  cases w with
  | zero => simp [Circuit.add, Circuit.empty, Circuit.truthy, hdf]
  | succ n =>
    have hw : (Circuit.empty (some (n + 1))).width = n + 1 := C11.width_ofGates_fixed [] n _ rfl
    rw [Circuit.add, hw, Nat.max_eq_left hdw]
    simp [Circuit.empty, Circuit.truthy]

/-- **IonQ JSON, whole circuits**: for a circuit of expressible gates, each on at least one qubit, that the writer
    accepts, what is read back has the same width - idle qubits included - and the same gates. -/
theorem ionq_circuit_roundtrip (c : Circuit) (j : IonqCirc) (hc : c.Inv) (hq : ∀ g ∈ c.gates, g.qubits ≠ [])
    (hexp : ∀ g ∈ c.gates, ionqExpressible g = true) (h : ionqWriteCirc c = some j) :
    ∃ c', ionqReadCirc j = .ok c' ∧ c'.width = c.width ∧ sameGates c.gates c'.gates = true := by
  simp only [ionqWriteCirc, Option.map_eq_some_iff] at h
  obtain ⟨rs, hrs, rfl⟩ := h
  obtain ⟨gs', hr, hs⟩ := mapOpt_roundtrip ionqWrite ionqRead _ ionq_roundtrip c.gates rs hexp hrs
  obtain ⟨hb, c', hc', hwid, hs⟩ := rebuilt_same c hc hq gs' hs
  refine ⟨c', ?_, hwid, hs⟩
  -- the reader first builds `d` from the gates alone, then adds it to the empty register of the written width
  obtain ⟨d, hd⟩ : ∃ d, Circuit.ofGates gs' Option.none = .ok d := addGates_free_ok gs' _ rfl
  have hdw : d.width ≤ c.width := by
    rcases (C11.width_ofGates_free gs' d hd).2 with e | ⟨g, hg, hq⟩
    · omega
    · have := hb g hg _ hq; omega
  simp only [ionqReadCirc, hr, hd]
  rw [add_empty_fixed _ d (fixed_addGates gs' _ d hd) hdw, Circuit.gates_ofGates hd, hc']

theorem mapOpt_mem {α : Type} (w : Gate → Option α) (gs : List Gate) (xs : List α) (h : mapOpt w gs = some xs) :
    ∀ x ∈ xs, ∃ g ∈ gs, w g = some x :=
  fun _ hx => exists_of_map_eq_map (mapOpt_eq_some.mp h) hx

theorem pqRead_measure (l : PqLine) (h : l.name = "Measure") : pqRead l = none := by
  simp (config := {decide := true}) [pqRead, h]

theorem maxIdx_eq_max? (l : List Nat) : maxIdx l = l.max? := by
  induction l with
  | nil => rfl
  | cons a as ih =>
    rw [maxIdx, ih, List.max?_cons]
    cases as.max? <;> rfl

theorem maxIdx_range (w : Nat) : (maxIdx (List.range (w + 1))).map (· + 1) = some (w + 1) := by
  have : (List.range (w + 1)).max? = some w :=
    List.max?_eq_some_iff.mpr ⟨List.mem_range.mpr w.lt_succ_self, fun _ hb => Nat.le_of_lt_succ (List.mem_range.mp hb)⟩
  rw [maxIdx_eq_max?, this]; rfl

theorem pqExpressible_qubits (g : Gate) (h : pqExpressible g = true) : g.qubits ≠ [] := by
  have hlen : g.target.length = 1 := by
    simp only [pqExpressible, Bool.or_eq_true, Bool.and_eq_true, beq_iff_eq] at h
    rcases h with (h1 | h1) | h1 <;> simp_all
  intro e
  simp [Gate.qubits] at e
  simp [e.1] at hlen

/-- **ProjectQ text, whole circuits**: the `Allocate` lines carry the width; reading back gives the same
    width - idle qubits included - and the same gates (for circuits of expressible gates; `MEASURE`, which the
    writer emits and the reader drops, is the recorded finding and is excluded by `pqExpressible`). -/
theorem projectq_circuit_roundtrip (c : Circuit) (p : PqProg) (hc : c.Inv)
    (hexp : ∀ g ∈ c.gates, pqExpressible g = true) (h : pqWriteCirc c = some p) :
    ∃ c', pqReadCirc p = .ok c' ∧ c'.width = c.width ∧ sameGates c.gates c'.gates = true := by
  simp only [pqWriteCirc, Option.map_eq_some_iff] at h
  obtain ⟨ls, hls, rfl⟩ := h
  obtain ⟨gs', hr, hs⟩ := mapOpt_roundtrip pqWrite pqRead _ projectq_roundtrip c.gates ls hexp hls
  obtain ⟨-, c', hc', hwid, hs⟩ := rebuilt_same c hc (fun g hg => pqExpressible_qubits g (hexp g hg)) gs' hs
  -- none of the lines is a `Measure` line: each of them is read back, a `Measure` line is not
  have hfilter : ls.filter (fun l => l.name != "Measure") = ls := by
    refine List.filter_eq_self.mpr fun l hl => ?_
    obtain ⟨g, hg, hw⟩ := mapOpt_mem pqWrite c.gates ls hls l hl
    obtain ⟨g', hg', -⟩ := projectq_roundtrip g l (hexp g hg) hw
    exact bne_iff_ne.mpr (mt (pqRead_measure l) (hg' ▸ Option.some_ne_none g'))
  refine ⟨c', ?_, hwid, hs⟩
  -- the register the reader computes from the `Allocate` lines is the written width
  have hreg : (maxIdx (List.range c.width)).map (· + 1) = if c.width = 0 then Option.none else some c.width := by
    cases c.width with
    | zero => rfl
    | succ n => rw [maxIdx_range, if_neg n.succ_ne_zero]
  simp only [pqReadCirc, hfilter, hr, hreg]
  exact hc'

def demoGates : List Gate := [⟨"H", [0], none, .none, false⟩, ⟨"CNOT", [2], some [0], .none, false⟩, ⟨"RZ", [1], none, .ang (Ang.piQuarter 3), false⟩]
example : ∃ c, Circuit.ofGates demoGates (some 4) = .ok c ∧ c.width = 4 ∧
    (∃ j, ionqWriteCirc c = some j ∧ j.qubits = 4 ∧ (ionqReadCirc j).toOption.map (·.width) = some 4) ∧
    (∃ p, pqWriteCirc c = some p ∧ p.allocs = [0, 1, 2, 3] ∧ (pqReadCirc p).toOption.map (·.width) = some 4) := by
  refine ⟨_, rfl, by decide +kernel, ⟨_, rfl, by decide +kernel, by decide +kernel⟩, ⟨_, rfl, by decide +kernel, by decide +kernel⟩⟩

example : ionqWrite ⟨"CPHASE", [1], some [0, 2], .ang (Ang.piQuarter 3), false⟩ = some ⟨"z", [1], some [0, 2], some (.ang (Ang.piQuarter 3))⟩ := by decide +kernel
example : pqWrite ⟨"PHASE", [1], none, .ang (Ang.piQuarter 3), false⟩ = some ⟨"R", some (.ang (Ang.piQuarter 3)), [1]⟩ := by decide +kernel

end Tangelo.C17
