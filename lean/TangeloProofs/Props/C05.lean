import TangeloModel.RefState
import TangeloProofs.Props.C03
import Mathlib.Data.List.Basic
/-!
# C05 — reference-state circuits encode the requested occupations
-/
namespace Tangelo.C05
open Tangelo JW RefState
variable {R : Type} [CommRing R]

/-- **the number operator reads the occupation**: a_j† a_j (the Fock-space operators of C03) multiplies the amplitude
    at `x` by the occupation bit of mode `j` -/
theorem number_operator_occupation (j : Nat) (ψ : State R) (x : Bits) :
    create j (annihilate j ψ) x = if x j then ψ x else 0 :=
  C03.create_annihilate j ψ x

/-- the encoded form: ½(X − iY)Z… ∘ ½(X + iY)Z… has the same action -/
theorem jw_number_operator (k : Consts R) (L : k.Laws) (j : Nat) (ψ : State R) (x : Bits) :
    (fun φ y => k.half * wordSem k (zString j ++ [(j, 2)]) φ y + (-(k.half * k.i)) * wordSem k (zString j ++ [(j, 3)]) φ y)
      (fun y => k.half * wordSem k (zString j ++ [(j, 2)]) ψ y + (k.half * k.i) * wordSem k (zString j ++ [(j, 3)]) ψ y) x
    = if x j then ψ x else 0 := by
  simp only [C03.jw_annihilate k L j ψ, C03.jw_create k L, number_operator_occupation]

/-- bits of `x` with the positions i, i+1, … flipped where the vector says so -/
def flipFrom (i : Nat) (v : List Bool) (x : Bits) : Bits := fun q => if i ≤ q then xor (x q) (v.getD (q - i) false) else x q

theorem flipFrom_cons (i : Nat) (b : Bool) (bs : List Bool) (x : Bits) :
    flipFrom i (b :: bs) x = (flipFrom (i + 1) bs x).set i (xor (flipFrom (i + 1) bs x i) b) := by
  funext q
  simp only [flipFrom, Bits.set]
  rcases Nat.lt_trichotomy q i with h | rfl | h
  · rw [if_neg (by omega), if_neg (by omega), if_neg (by omega)]
  · simp
  · rw [if_pos (by omega), if_neg (by omega), if_pos (by omega), show q - i = q - (i + 1) + 1 by omega]; rfl

theorem toGatesFrom_ops (i : Nat) (v : List Bool) :
    ∃ ops, gatesToOps (toGatesFrom i v) = some ops ∧ ∀ (k : Consts R) (ψ : State R) (x : Bits), semOps k ops ψ x = ψ (flipFrom i v x) := by
  induction v generalizing i with
  | nil => exact ⟨[], rfl, fun k ψ x => congrArg ψ (funext fun q => by simp [flipFrom])⟩
  | cons b bs ih =>
    obtain ⟨ops, hops, hsem⟩ := ih (i + 1)
    cases b with
    | false =>
      refine ⟨ops, by simpa [toGatesFrom] using hops, fun k ψ x => ?_⟩
      rw [hsem, flipFrom_cons, Bool.xor_false, Bits.set_self]
    | true =>
      refine ⟨Op.one .X 0 i [] :: ops, ?_, fun k ψ x => ?_⟩
      · simp only [toGatesFrom, if_true, List.singleton_append, gatesToOps_cons, hops]
        rfl
      · rw [semOps_cons, hsem, C03.x_sem, flipFrom_cons, Bool.xor_true]

/-- **`vector_to_circuit`**: the X gates on the occupied positions of `v` map the amplitude function ψ to
    x ↦ ψ(x ⊕ v) (`flipFrom 0 v x`) -/
theorem x_gates_prepare (v : List Bool) :
    ∃ ops, gatesToOps (toGates v) = some ops ∧ ∀ (k : Consts R) (ψ : State R) (x : Bits), semOps k ops ψ x = ψ (flipFrom 0 v x) :=
  toGatesFrom_ops 0 v

theorem filter_partition_length {α : Type} (p : α → Bool) (l : List α) :
    (l.filter p).length + (l.filter (fun a => !p a)).length = l.length :=
  (List.length_eq_length_filter_add p).symm

theorem toUpThenDown_length (v : List Bool) : (toUpThenDown v).length = v.length := by
  have hodd : ∀ p : Bool × Nat, (p.2 % 2 == 1) = !(p.2 % 2 == 0) := fun p => by
    rcases Nat.mod_two_eq_zero_or_one p.2 with h | h <;> simp [h]
  simp only [toUpThenDown, List.length_append, List.length_map, hodd]
  exact (filter_partition_length _ _).trans List.length_zipIdx

/-- clipped stop index of a Python slice -/
def sliceStop (len : Nat) (stop : Int) : Nat := if stop < 0 then Int.toNat (stop + len) else min stop.toNat len

theorem setStride_get (v : List Bool) (start : Nat) (stop : Int) (i : Nat) :
    (setStride v start stop)[i]? = (v[i]?).map (fun b =>
      if start ≤ i ∧ i < sliceStop v.length stop ∧ (i - start) % 2 = 0 then true else b) := by
  simp only [setStride, sliceStop, List.getElem?_map, List.getElem?_zipIdx, Nat.zero_add, Option.map_map]
  congr 1; funext b
  exact if_congr (by simp [and_assoc]) rfl rfl

theorem setStride_length (v : List Bool) (start : Nat) (stop : Int) : (setStride v start stop).length = v.length := by
  simp only [setStride, List.length_map, List.length_zipIdx]

/-- `vector[start:2*a+start:2] = 1` on `n` entries, for `start` 0 or 1 and `a ≥ 0`, sets the positions of parity
    `start` whose half is below `a` (`hstop`: the two callers have the stops `2*a` and `2*a+1` written out) -/
theorem slice_iff (n start i : Nat) (a stop : Int) (hi : i < n) (ha : 0 ≤ a) (hs : start ≤ 1) (hstop : stop = 2 * a + start) :
    (start ≤ i ∧ i < sliceStop n stop ∧ (i - start) % 2 = 0) ↔ (i % 2 = start ∧ ((i / 2 : Nat) : Int) < a) := by
  -- `a ≥ 0` makes the stop non-negative (nothing counts from the end); the rest is arithmetic of `i`, `i / 2`, `i % 2`
  rw [sliceStop, if_neg (by omega)]
  omega

/-- `n_alpha` and `n_beta` of `get_vector`; Python's floor division by 2 is Lean's `/` on `Int` -/
theorem fdiv2_alpha_beta (ne s : Int) (hpar : (ne + s) % 2 = 0) :
    fdiv2 ne + fdiv2 s + ne % 2 = (ne + s) / 2 ∧ fdiv2 ne - fdiv2 s = (ne - s) / 2 := by
  have hf : ∀ a : Int, fdiv2 a = a / 2 := fun a => Int.fdiv_eq_ediv_of_nonneg a (by decide)
  rw [hf, hf]
  constructor <;> omega

/-- **open-shell filling** (spin ≠ 0, matching parity, 0 ≤ n_alpha, n_beta): position i of the vector is occupied
    exactly when it is one of the lowest n_alpha even (alpha) or n_beta odd (beta) positions -/
theorem occupation_open_shell (n : Nat) (ne s : Int) (hs : s ≠ 0) (hpar : (ne + s) % 2 = 0)
    (hA : 0 ≤ (ne + s) / 2) (hB : 0 ≤ (ne - s) / 2) (i : Nat) (hi : i < n) :
    (occupation n ne (some s))[i]? = some (
      if i % 2 = 0 then decide (((i / 2 : Nat) : Int) < (ne + s) / 2) else decide (((i / 2 : Nat) : Int) < (ne - s) / 2)) := by
  obtain ⟨hnA, hnB⟩ := fdiv2_alpha_beta ne s hpar
  have eA := slice_iff n 0 i _ (2 * ((ne + s) / 2)) hi hA (Nat.zero_le 1) (by simp)
  have eB := slice_iff n 1 i _ (2 * ((ne - s) / 2) + 1) hi hB le_rfl (by simp)
  -- entry `i` through the two stride assignments (`setStride_get`), their membership tests put by `eA`, `eB` into
  -- parity-and-half form; what is left is the case split on the parity of `i`
  simp only [occupation, beq_iff_eq, hs, if_false, hnA, hnB, setStride_get, setStride_length, List.getElem?_replicate, hi,
    if_true, Option.map_some, List.length_replicate, eA, eB]
  rcases Nat.mod_two_eq_zero_or_one i with h | h <;> simp [h]

/-- **closed-shell filling** (`spin` absent or 0): the first `n_electrons` positions are occupied -/
theorem occupation_closed_shell (n : Nat) (ne : Nat) (i : Nat) (hi : i < n) :
    (occupation n ne none)[i]? = some (decide (i < ne)) ∧ (occupation n ne (some 0))[i]? = some (decide (i < ne)) := by
  have key : (occupation.setStride' (List.replicate n false) (ne : Int))[i]? = some (decide (i < ne)) := by
    simp [occupation.setStride', hi, Int.not_lt.mpr (Int.natCast_nonneg ne)]
  exact ⟨key, by simpa [occupation] using key⟩

/-- kernel evaluation for every admissible (n_electrons, spin ≠ 0) and every even n ≤ 10: a test of the model beside
    `occupation_open_shell`, which proves it for every n -/
theorem occupation_table_partial :
    ∀ n ∈ [2, 4, 6, 8, 10], ∀ p ∈ admissible n, p.2 = 0 ∨ occupationOk n p.1 p.2 = true := by decide +kernel

example : occupation 6 3 (some 1) = [true, true, true, false, false, false] := by decide +kernel
example : occupation 6 3 (some (-1)) = [true, true, false, true, false, false] := by decide +kernel
example : toUpThenDown [true, true, true, false, false, false] = [true, true, false, true, false, false] := by decide

end Tangelo.C05
