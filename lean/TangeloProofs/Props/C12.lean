import TangeloModel.Symmetry
import TangeloModel.Defaults
import TangeloProofs.Props.C05
import TangeloProofs.Lemmas.ListSum
import Mathlib.Algebra.BigOperators.Ring.List
import Mathlib.Algebra.BigOperators.Group.Finset.Piecewise
import Mathlib.Algebra.Order.Ring.Rat
/-!
# C12 — symmetry operators and penalties are exact
-/
namespace Tangelo.C12
open Tangelo JW Symmetry
variable {R : Type} [CommRing R]

/-- **diagonal symmetry operators have the determinants as eigenvectors**: Σ c_p a†_p a_p multiplies the amplitude
    of a determinant x by Σ_{p occupied in x} c_p -/
theorem applyDiag_eigen (coef : Rat → R) (terms : List (Nat × Rat)) (ψ : State R) (x : Bits) :
    applyDiag coef terms ψ x = (terms.map (fun (pc : Nat × Rat) => if x pc.1 then coef pc.2 else 0)).sum * ψ x := by
  unfold applyDiag
  rw [foldl_add_eq_sum (fun pc : Nat × Rat => coef pc.2 * create pc.1 (annihilate pc.1 ψ) x), zero_add,
    ← List.sum_map_mul_right]
  congr 1
  refine List.map_congr_left fun pc _ => ?_
  rw [C05.number_operator_occupation]
  split <;> simp

theorem sum_map_flatMap {α β : Type} (l : List α) (f : α → List β) (g : β → Rat) :
    ((l.flatMap f).map g).sum = (l.map (fun i => ((f i).map g).sum)).sum :=
  Tangelo.sum_map_flatMap l f g

/-- N on a determinant, either ordering: one for each occupied spin-orbital of each of the `n_orbs` spatial orbitals -/
theorem number_eigenvalue (nOrbs : Nat) (utd : Bool) (x : Bits) :
    diagValue (numberList nOrbs utd) x = ((List.range nOrbs).map (fun i =>
      (if x (spinOrbitals nOrbs i utd).1 then (1 : Rat) else 0) + (if x (spinOrbitals nOrbs i utd).2 then 1 else 0))).sum := by
  rw [diagValue, numberList, sum_map_flatMap]
  simp

theorem spinOrbitals_alternating (nOrbs i : Nat) : spinOrbitals nOrbs i false = (2 * i, 2 * i + 1) := rfl
theorem spinOrbitals_up_then_down (nOrbs i : Nat) : spinOrbitals nOrbs i true = (i, i + nOrbs) := rfl

/-- the same for S_z: +½ for each occupied up spin-orbital, −½ for each occupied down one -/
theorem spinz_eigenvalue (nOrbs : Nat) (utd : Bool) (x : Bits) :
    diagValue (spinzList nOrbs utd) x = ((List.range nOrbs).map (fun i =>
      (if x (spinOrbitals nOrbs i utd).1 then (1/2 : Rat) else 0) + (if x (spinOrbitals nOrbs i utd).2 then -1/2 else 0))).sum := by
  rw [diagValue, spinzList, sum_map_flatMap]
  simp

/-! A diagonal operator with weight `w` (`(D ψ)(x) = w(x) ψ(x)`) whose weight is additive over occupied modes with
increments `γ p` satisfies the shift relations `D a†_p = a†_p (D + γ_p)` and `D a_q = a_q (D − γ_q)`; hence it
commutes with every ladder string whose increments cancel — N with every number-conserving term, S_z with every
term that conserves the spin projection — and, by linearity, with every Hamiltonian made of such terms. -/
section commute

def Additive (γ : Nat → R) (w : Bits → R) : Prop := ∀ (x : Bits) (p : Nat), x p = true → w x = w (x.set p false) + γ p

def diagOp (w : Bits → R) (ψ : State R) : State R := fun x => w x * ψ x

theorem additive_shift (γ : Nat → R) (w : Bits → R) (h : Additive γ w) (c : R) : Additive γ (fun x => w x + c) := by
  intro x p hx
  show w x + c = w (x.set p false) + c + γ p
  rw [h x p hx]; ring

theorem additive_set_true (γ : Nat → R) (w : Bits → R) (h : Additive γ w) (x : Bits) (p : Nat) (hx : x p = false) :
    w (x.set p true) = w x + γ p := by
  rw [h (x.set p true) p (Bits.set_same x p true), Bits.set_set, ← hx, Bits.set_self]

theorem shift_create (γ : Nat → R) (w : Bits → R) (h : Additive γ w) (p : Nat) (ψ : State R) :
    diagOp w (create p ψ) = create p (diagOp (fun x => w x + γ p) ψ) := by
  funext x
  simp only [diagOp, create]
  split
  · rename_i hx; rw [h x p hx]; ring
  · exact mul_zero _

theorem shift_annihilate (γ : Nat → R) (w : Bits → R) (h : Additive γ w) (q : Nat) (ψ : State R) :
    diagOp w (annihilate q ψ) = annihilate q (diagOp (fun x => w x - γ q) ψ) := by
  funext x
  simp only [diagOp, annihilate]
  split
  · exact mul_zero _
  · rename_i hx; rw [additive_set_true γ w h x q (by simpa using hx)]; ring

/-- the head of the list is the outermost (leftmost) operator -/
def applyString : List (Nat × Bool) → State R → State R
  | [], ψ => ψ
  | (p, true) :: rest, ψ => create p (applyString rest ψ)
  | (p, false) :: rest, ψ => annihilate p (applyString rest ψ)

def increment (γ : Nat → R) : List (Nat × Bool) → R
  | [] => 0
  | (p, true) :: rest => γ p + increment γ rest
  | (p, false) :: rest => -γ p + increment γ rest

theorem shift_string (γ : Nat → R) (w : Bits → R) (h : Additive γ w) (s : List (Nat × Bool)) (ψ : State R) :
    diagOp w (applyString s ψ) = applyString s (diagOp (fun x => w x + increment γ s) ψ) := by
  induction s generalizing w with
  | nil => simp [applyString, increment]
  | cons pd rest ih =>
    obtain ⟨p, d⟩ := pd
    cases d <;> simp only [applyString, increment]
    · rw [shift_annihilate γ w h, ih _ (by simpa [sub_eq_add_neg] using additive_shift γ w h (-γ p))]
      simp only [sub_eq_add_neg, add_assoc]
    · rw [shift_create γ w h, ih _ (additive_shift γ w h (γ p))]
      simp only [add_assoc]

theorem commute_string (γ : Nat → R) (w : Bits → R) (h : Additive γ w) (s : List (Nat × Bool)) (hs : increment γ s = 0)
    (ψ : State R) : diagOp w (applyString s ψ) = applyString s (diagOp w ψ) := by
  rw [shift_string γ w h s ψ, hs]
  simp only [add_zero]

def applyTerms (ts : List (List (Nat × Bool) × R)) (ψ : State R) : State R :=
  fun x => (ts.map (fun t => t.2 * applyString t.1 ψ x)).sum

theorem commute_terms (γ : Nat → R) (w : Bits → R) (h : Additive γ w) (ts : List (List (Nat × Bool) × R))
    (hts : ∀ t ∈ ts, increment γ t.1 = 0) (ψ : State R) :
    diagOp w (applyTerms ts ψ) = applyTerms ts (diagOp w ψ) := by
  funext x
  simp only [applyTerms, diagOp, ← List.sum_map_mul_left]
  refine congrArg List.sum (List.map_congr_left fun t ht => ?_)
  rw [← commute_string γ w h t.1 (hts t ht) ψ]
  simp only [diagOp]; ring

def weightR (coef : Rat → R) (terms : List (Nat × Rat)) (x : Bits) : R :=
  (terms.map (fun (pc : Nat × Rat) => if x pc.1 then coef pc.2 else 0)).sum

def gammaR (coef : Rat → R) (terms : List (Nat × Rat)) (p : Nat) : R :=
  (terms.map (fun (pc : Nat × Rat) => if pc.1 = p then coef pc.2 else 0)).sum

theorem weightR_additive (coef : Rat → R) (terms : List (Nat × Rat)) : Additive (gammaR coef terms) (weightR coef terms) := by
  intro x p hx
  simp only [weightR, gammaR, ← List.sum_map_add]
  refine congrArg List.sum (List.map_congr_left fun pc _ => ?_)
  by_cases hp : pc.1 = p
  · subst hp; simp [hx]
  · simp [hp]

theorem applyDiag_is_diagOp (coef : Rat → R) (terms : List (Nat × Rat)) (ψ : State R) :
    applyDiag coef terms ψ = diagOp (weightR coef terms) ψ := by
  funext x; rw [applyDiag_eigen]; rfl

/-- **N and S_z commute with every Hamiltonian whose terms conserve them**: stated for an arbitrary Σ c_p a†_p a_p
    (`terms := numberList …` / `spinzList …`); "conserve" is the hypothesis that the increments `gammaR` cancel along each
    term, and `gamma_number_alternating` computes them for N in the alternating ordering -/
theorem symmetry_commutes (coef : Rat → R) (terms : List (Nat × Rat)) (ts : List (List (Nat × Bool) × R))
    (hts : ∀ t ∈ ts, increment (gammaR coef terms) t.1 = 0) (ψ : State R) :
    applyDiag coef terms (applyTerms ts ψ) = applyTerms ts (applyDiag coef terms ψ) := by
  rw [applyDiag_is_diagOp, applyDiag_is_diagOp]
  exact commute_terms (gammaR coef terms) (weightR coef terms) (weightR_additive coef terms) ts hts ψ

theorem numberList_alternating (n : Nat) : numberList n false = (List.range (2 * n)).map fun q => (q, 1) := by
  induction n with
  | zero => rfl
  | succ n ih =>
    rw [show 2 * (n + 1) = 2 * n + 1 + 1 from rfl, List.range_succ, List.range_succ, List.map_append, List.map_append, ← ih]
    simp [numberList, spinOrbitals, List.range_succ]

theorem gamma_number_alternating (coef : Rat → R) (nOrbs p : Nat) :
    gammaR coef (numberList nOrbs false) p = if p < 2 * nOrbs then coef 1 else 0 := by
  rw [gammaR, numberList_alternating, List.map_map, sum_map_range]
  simp only [Function.comp, Finset.sum_ite_eq', Finset.mem_range]

end commute

/-- μ(a − t)² is the value of the penalty μ(O − t)² at an eigenvalue `a` of `O` -/
theorem penalty_nonneg (μ a t : Rat) (hμ : 0 < μ) : 0 ≤ μ * ((a - t) * (a - t)) :=
  mul_nonneg hμ.le (mul_self_nonneg _)

theorem penalty_zero_iff (μ a t : Rat) (hμ : 0 < μ) : μ * ((a - t) * (a - t)) = 0 ↔ a = t := by
  rw [mul_eq_zero, mul_self_eq_zero, sub_eq_zero]
  exact or_iff_right hμ.ne'

example : numberList 2 true = [(0, 1), (2, 1), (1, 1), (3, 1)] := by decide +kernel
example : spinzList 2 false = [(0, 1/2), (1, -1/2), (2, 1/2), (3, -1/2)] := by decide +kernel

end Tangelo.C12

namespace Tangelo.C12
open Tangelo.Defaults

/-- **per-call defaults are history independent** (by `rfl`: `callFresh` does not read the shared dictionary) -/
theorem fresh_history_independent {V : Type} (defaults : Dict V) (history : List (Dict V)) (opts : Dict V) :
    afterHistoryFresh defaults history opts = update defaults opts := rfl

/-- **a shared default dictionary is not**: after a call that set N, a call that sets only Sz still carries N -/
theorem shared_counterexample :
    afterHistoryShared [("N", (0, 0)), ("Sz", (0, 0)), ("S^2", (0, 0))] [[("N", (3, 2))]] [("Sz", (2, 0))]
      ≠ update [("N", ((0 : Nat), (0 : Nat))), ("Sz", (0, 0)), ("S^2", (0, 0))] [("Sz", (2, 0))] := by decide

end Tangelo.C12
