import TangeloModel.AnsatzUpdate
import TangeloProofs.Props.C06
import Mathlib.Data.List.Basic
import Mathlib.Data.List.Nodup
import Mathlib.Data.List.Find
/-!
# C07 — ansatz parameter updates are equivalent to rebuilding the circuit
-/
namespace Tangelo.C07
open Tangelo.AnsatzUpdate
variable {W A P : Type} [DecidableEq W]

theorem getElem?_foldl_set (as : List (Nat × P)) (ps : List P) (hnd : (as.map (·.1)).Nodup) (j : Nat) :
    (as.foldl (fun p (ia : Nat × P) => p.set ia.1 ia.2) ps)[j]? =
      (match as.find? (fun ia => ia.1 == j) with
       | some ia => if j < ps.length then some ia.2 else none
       | none => ps[j]?) := by
  rw [Tangelo.getElem?_foldl_set (·.1) (·.2) as ps hnd j]
  cases as.find? (·.1 == j) with
  | none => exact Option.map_id'
  | some ia =>
    show ps[j]?.map (fun _ => ia.2) = if j < ps.length then some ia.2 else none
    split
    · next h => rw [List.getElem?_eq_getElem h]; rfl
    · next h => rw [List.getElem?_eq_none (Nat.le_of_not_lt h)]; rfl

theorem updateBlock_append (ang : A → P) (order : List W) (pre B post : List P) (gen : List (W × A))
    (hB : B.length = order.length) (hsub : ∀ wc ∈ gen, wc.1 ∈ order) :
    updateBlock ang order pre.length (pre ++ B ++ post) gen = pre ++ updateBlock ang order 0 B gen ++ post := by
  induction gen generalizing B with
  | nil => rfl
  | cons wc gen ih =>
    have hi : order.idxOf wc.1 < B.length := hB ▸ List.idxOf_lt_length_iff.mpr (hsub wc List.mem_cons_self)
    rw [updateBlock, List.foldl_cons, List.append_assoc, List.set_append_right _ _ (Nat.le_add_right _ _),
      Nat.add_sub_cancel_left, List.set_append_left _ _ hi, ← List.append_assoc]
    exact (ih (B.set _ _) (by rw [List.length_set, hB]) fun wc h => hsub wc (List.mem_cons_of_mem _ h)).trans
      (by rw [updateBlock, updateBlock, List.foldl_cons, Nat.zero_add])

/-- **one layer**: if the new generator output has exactly the words of the block (each once), updating in place
    the block that a build laid out at offset `pre.length` gives what a fresh build of that layer writes
    (any surrounding gates `pre`, `post`, any old coefficients, any iteration order of the dictionary) -/
theorem updateBlock_eq_build (ang : A → P) (dflt : A) (order : List W) (pre post : List P) (coef0 : W → A) (gen : List (W × A))
    (hord : order.Nodup) (hgen : (gen.map (·.1)).Nodup) (hsub : ∀ w ∈ gen.map (·.1), w ∈ order) (hsup : ∀ w ∈ order, w ∈ gen.map (·.1)) :
    updateBlock ang order pre.length (pre ++ buildBlock ang order coef0 ++ post) gen =
      pre ++ buildBlock ang order (coefOf dflt gen) ++ post := by
  rw [updateBlock_append ang order pre (buildBlock ang order coef0) post gen (List.length_map _)
    fun wc h => hsub _ (List.mem_map_of_mem h)]
  congr 2
  -- the writes go to pairwise distinct positions
  have hidx : (gen.map (order.idxOf ·.1)).Nodup := by
    simpa only [List.map_map, Function.comp_def] using
      List.Nodup.map_on (f := (order.idxOf ·)) (fun a ha b _ e => (List.idxOf_inj (hsub a ha)).mp e) hgen
  apply List.ext_getElem?
  intro j
  simp only [updateBlock, Nat.zero_add]
  rw [Tangelo.getElem?_foldl_set (order.idxOf ·.1) (ang ·.2) gen _ hidx j, buildBlock, buildBlock, List.getElem?_map,
    List.getElem?_map, Option.map_map]
  cases hj : order[j]? with
  | none => rfl
  | some w =>
    obtain ⟨hlt, rfl⟩ := List.getElem?_eq_some_iff.mp hj
    -- the write aimed at `j` is the one of the word `order[j]`, which is the entry `coefOf` looks up
    have hfind : gen.find? (fun wc => order.idxOf wc.1 == j) = gen.find? (fun wc => wc.1 == order[j]) :=
      List.find?_congr fun wc h => by
        rw [Bool.eq_iff_iff, beq_iff_eq, beq_iff_eq]
        exact ⟨fun e => by subst e; exact (List.getElem_idxOf _).symm, fun e => by rw [e, hord.idxOf_getElem]⟩
    obtain ⟨wc, hwc⟩ := Option.isSome_iff_exists.mp (List.find?_isSome.mpr
      (let ⟨wc, h, e⟩ := List.mem_map.mp (hsup _ (List.getElem_mem hlt)); ⟨wc, h, beq_iff_eq.mpr e⟩))
    -- both sides are `ang wc.2`: the left by `hfind`, the right because `coefOf` runs the same `find?`
    simp [hfind, hwc, coefOf]

/-- each offset is the one before plus the size of the block before, so the blocks are consecutive and disjoint -/
theorem cumOffsets_step (sizes : List Nat) (k : Nat) (hk : k + 1 < sizes.length) :
    (cumOffsets sizes)[k + 1]! = (cumOffsets sizes)[k]! + sizes[k]! := by
  have h3 : k < sizes.length := Nat.lt_of_succ_lt hk
  simp only [cumOffsets, getElem!_def, List.getElem?_map, List.getElem?_range hk, List.getElem?_range h3,
    List.getElem?_eq_getElem h3, Option.map_some]
  rw [List.take_succ_eq_append_getElem h3, List.sum_append, List.sum_singleton]

/-- the offsets without accumulation (`buggyOffsets`: offset of layer k+1 = size of layer k) are wrong from three layers
    on: with sizes (2, 3, 2) the third layer would start at position 3 instead of 5, inside the second -/
theorem buggy_offsets_counterexample : buggyOffsets [2, 3, 2] = [0, 2, 3] ∧ cumOffsets [2, 3, 2] = [0, 2, 5] := by decide

/-- for one or two layers the two rules coincide (why the defect went unnoticed for k ≤ 2) -/
theorem buggy_offsets_ok_upto_two (a b : Nat) : buggyOffsets [a] = cumOffsets [a] ∧ buggyOffsets [a, b] = cumOffsets [a, b] := by
  simp [buggyOffsets, cumOffsets, List.range_succ]

/-- **every history**: after any sequence of updates whose generator outputs carry the key set of the build,
    the parameters of the block are those of a fresh build with the LAST output (and untouched if there was none) -/
theorem history_eq_build (ang : A → P) (dflt : A) (order : List W) (pre post : List P) (hord : order.Nodup)
    (gens : List (List (W × A)))
    (hg : ∀ gen ∈ gens, (gen.map (·.1)).Nodup ∧ (∀ w ∈ gen.map (·.1), w ∈ order) ∧ (∀ w ∈ order, w ∈ gen.map (·.1)))
    (coef0 : W → A) :
    gens.foldl (fun ps gen => updateBlock ang order pre.length ps gen) (pre ++ buildBlock ang order coef0 ++ post)
      = pre ++ buildBlock ang order (match gens.getLast? with | some g => coefOf dflt g | none => coef0) ++ post := by
  induction gens generalizing coef0 with
  | nil => rfl
  | cons g gs ih =>
    obtain ⟨h1, h2, h3⟩ := hg g List.mem_cons_self
    rw [List.foldl_cons, updateBlock_eq_build ang dflt order pre post coef0 g hord h1 h2 h3,
      ih (fun gen h => hg gen (List.mem_cons_of_mem _ h)) (coefOf dflt g), List.getLast?_cons]
    cases gs.getLast? <;> rfl

section object
variable {V C : Type}

/-- **every history of sets and updates**: if the in-place write turns the circuit of any parameter vector into the
    circuit of the new one (for the block layout: `updateBlock_eq_build`), then after any sequence of `set_var_params` /
    `update_var_params` calls the circuit is the freshly built circuit of the LAST UPDATE's vector, whatever
    `set_var_params` recorded in between. -/
theorem run_circ_eq_build (build : V → C) (write : C → V → C) (hw : ∀ θ' θ, write (build θ') θ = build θ)
    (cs : List (Call V)) (θ0 v0 : V) :
    (Obj.run write ⟨v0, build θ0⟩ cs).circ = build (lastUpdate θ0 cs) := by
  induction cs generalizing θ0 v0 with
  | nil => rfl
  | cons c cs ih =>
    cases c with
    | set θ => exact ih θ0 θ
    | update θ =>
      show (Obj.run write ⟨θ, write (build θ0) θ⟩ cs).circ = _
      rw [hw]; exact ih θ θ

theorem run_update_last (build : V → C) (write : C → V → C) (hw : ∀ θ' θ, write (build θ') θ = build θ)
    (cs : List (Call V)) (θ0 v0 θ : V) :
    (Obj.run write ⟨v0, build θ0⟩ (cs ++ [.update θ])).circ = build θ ∧
    (Obj.run write ⟨v0, build θ0⟩ (cs ++ [.update θ])).var = θ := by
  -- the last call writes `θ` into the circuit left by the calls before it, which is a built one
  rw [Obj.run, List.foldl_concat]
  exact ⟨(congrArg (write · θ) (run_circ_eq_build build write hw cs θ0 v0)).trans (hw _ θ), rfl⟩

/-- the shortcut "skip the update when the vector equals the recorded one" is NOT sound: `set_var_params 1` followed
    by `update_var_params 1` leaves the circuit of the old vector in place -/
theorem skip_shortcut_counterexample :
    (([Call.set 1, Call.update 1].foldl (Obj.stepSkip (fun _ θ => θ)) (⟨0, 0⟩ : Obj Nat Nat)).circ = 0) ∧
    ((Obj.run (fun _ θ => θ) (⟨0, 0⟩ : Obj Nat Nat) [Call.set 1, Call.update 1]).circ = 1) := by decide

example : (Obj.run (fun _ θ => θ) (⟨0, 0⟩ : Obj Nat Nat) [.update 3, .set 5, .update 4, .set 9]).circ = 4 := by decide

end object

example : updateBlock (fun (c : Int) => 2 * c) ["XY", "YX", "ZZ"] 1 [7, 2, 4, 6, 9] [("ZZ", 5), ("XY", -1), ("YX", 0)] = [7, -2, 0, 10, 9] := by decide
example : buildBlock (fun (c : Int) => 2 * c) ["XY", "YX", "ZZ"] (coefOf 0 [("ZZ", 5), ("XY", -1), ("YX", 0)]) = [-2, 0, 10] := by decide

end Tangelo.C07

/-! All-zero parameters: gate semantics of C06 over a ring; neither variables nor `open`s are shared with the bookkeeping
part above, hence the fresh namespace block. -/
namespace Tangelo.C07
open Tangelo PauliExp C06
variable {S : Type} [CommRing S] [StarRing S]

/-- **one excitation block at parameter zero is the identity**: the gate list emitted for `exp(-i·0·P)`, in both
    branches of the angle rule (`0` and `4π`) -/
theorem zero_coefficient_block (k : Consts S) (L : k.Laws) (hp : HalfPi k) (w : PWord) (nonneg var : Bool)
    (hne : w ≠ []) (hnd : (w.map (·.1)).Nodup) :
    ∃ gs ops, gates w 0 nonneg var none = some gs ∧ gatesToOps gs = some ops ∧ ∀ ψ : State S, semOps k ops ψ = ψ := by
  obtain ⟨gs, ops, h1, h2, h3⟩ := exp_pauliword_general k L hp w 0 nonneg var none hne hnd (by simp)
  refine ⟨gs, ops, h1, h2, ?_⟩
  intro ψ
  funext x
  rw [h3 ψ x]
  simp [Ang.add_zero', L.cos_zero, L.misin_zero]

/-- Pauli-word exponential blocks with coefficient 0 (`gates w 0 …`), emitted one after the other -/
def blocks : List (PWord × Bool × Bool) → Option (List Gate)
  | [] => some []
  | (w, nonneg, var) :: rest => match gates w 0 nonneg var none, blocks rest with
    | some g, some gs => some (g ++ gs)
    | _, _ => none

/-- **all-zero parameters prepare exactly the reference state**: a reference-state preparation `ref` followed by any
    number of Pauli-word exponential blocks with every coefficient equal to zero (`blocks`) acts as `ref` alone. -/
theorem all_zero_parameters_reference (k : Consts S) (L : k.Laws) (hp : HalfPi k) (ref : List Op)
    (ws : List (PWord × Bool × Bool)) (hws : ∀ b ∈ ws, b.1 ≠ [] ∧ (b.1.map (·.1)).Nodup) :
    ∃ gs ops, blocks ws = some gs ∧ gatesToOps gs = some ops ∧
      ∀ ψ : State S, semOps k (ref ++ ops) ψ = semOps k ref ψ := by
  have key : ∃ gs ops, blocks ws = some gs ∧ gatesToOps gs = some ops ∧ ∀ ψ : State S, semOps k ops ψ = ψ := by
    induction ws with
    | nil => exact ⟨[], [], rfl, rfl, fun ψ => rfl⟩
    | cons b rest ih =>
      obtain ⟨w, nonneg, var⟩ := b
      obtain ⟨gs, ops, hg, ho, hs⟩ := ih (fun b hb => hws b (by simp [hb]))
      have hb := hws (w, nonneg, var) (by simp)
      obtain ⟨g1, o1, hg1, ho1, hs1⟩ := zero_coefficient_block k L hp w nonneg var hb.1 hb.2
      refine ⟨g1 ++ gs, o1 ++ ops, by simp [blocks, hg1, hg], gatesToOps_append ho1 ho, ?_⟩
      intro ψ
      rw [semOps_append, hs1, hs]
  obtain ⟨gs, ops, h1, h2, h3⟩ := key
  exact ⟨gs, ops, h1, h2, fun ψ => by rw [semOps_append, h3]⟩

theorem all_zero_parameters_reference_exec (ref : List Op)
    (ws : List (PWord × Bool × Bool)) (hws : ∀ b ∈ ws, b.1 ≠ [] ∧ (b.1.map (·.1)).Nodup) :
    ∃ gs ops, blocks ws = some gs ∧ gatesToOps gs = some ops ∧
      ∀ ψ : State Cyc, semOps cycConsts (ref ++ ops) ψ = semOps cycConsts ref ψ :=
  all_zero_parameters_reference cycConsts cycConsts_laws halfPi_exec ref ws hws

/-- two blocks (a double-excitation word and a single-excitation word, one in each angle branch) -/
example : blocks [([(0, .X), (1, .Y), (2, .X), (3, .X)], true, true), ([(0, .Y), (2, .X)], false, true)] ≠ none := by decide
end Tangelo.C07
