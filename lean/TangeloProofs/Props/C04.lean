import TangeloModel.Frozen
import TangeloProofs.Lemmas.ListSum
import Mathlib.Algebra.BigOperators.Group.Finset.Basic
import Mathlib.Algebra.BigOperators.Group.Finset.Sigma
import Mathlib.Algebra.BigOperators.Ring.Finset
import Mathlib.Tactic.Ring
/-!
# C04 — qubit Hamiltonians reproduce mean-field and full-CI energies

Bookkeeping behind the active-space Hamiltonian: the orbital partition, the electron counts, and the
algebraic identity that folds a closed frozen core into a constant and a one-body correction.
-/
namespace Tangelo.C04
open Tangelo.Frozen

theorem mem_occupied (occ : List Nat) (i : Nat) : i ∈ occupied occ ↔ i < occ.length ∧ occ.getD i 0 > 0 := by
  simp [occupied]

theorem mem_virtuals (occ : List Nat) (i : Nat) : i ∈ virtuals occ ↔ i < occ.length ∧ occ.getD i 0 = 0 := by
  simp [virtuals]

theorem mem_pick (fr : List Int) (xs : List Nat) (i : Nat) : i ∈ pick fr xs ↔ (i : Int) ∈ fr ∧ i ∈ xs := by
  simp only [pick, List.mem_filterMap, Option.ite_none_right_eq_some, Option.some.injEq, List.contains_eq_mem,
    decide_eq_true_eq]
  constructor
  · rintro ⟨z, hz, ⟨h0, hx⟩, rfl⟩
    exact ⟨by rwa [Int.toNat_of_nonneg h0], hx⟩
  · rintro ⟨h1, h2⟩
    exact ⟨i, h1, ⟨Int.natCast_nonneg i, h2⟩, Int.toNat_natCast i⟩

theorem classify_cover (occ : List Nat) (spec : Spec) (i : Nat) (hi : i < occ.length) :
    let p := classify occ spec
    i ∈ p.activeOcc ∨ i ∈ p.frozenOcc ∨ i ∈ p.activeVirt ∨ i ∈ p.frozenVirt := by
  simp only [classify, List.mem_filter, mem_occupied, mem_virtuals, Bool.not_eq_true', List.contains_eq_mem,
    decide_eq_false_iff_not]
  by_cases ho : occ.getD i 0 > 0
  · by_cases hf : i ∈ pick (frozenList spec) (occupied occ)
    · exact Or.inr (Or.inl hf)
    · exact Or.inl ⟨⟨hi, ho⟩, hf⟩
  · have hz : occ.getD i 0 = 0 := by omega
    by_cases hf : i ∈ pick (frozenList spec) (virtuals occ)
    · exact Or.inr (Or.inr (Or.inr hf))
    · exact Or.inr (Or.inr (Or.inl ⟨⟨hi, hz⟩, hf⟩))

theorem classify_disjoint (occ : List Nat) (spec : Spec) (i : Nat) :
    let p := classify occ spec
    ¬(i ∈ p.activeOcc ∧ i ∈ p.frozenOcc) ∧ ¬(i ∈ p.activeVirt ∧ i ∈ p.frozenVirt) ∧
    ¬((i ∈ p.activeOcc ∨ i ∈ p.frozenOcc) ∧ (i ∈ p.activeVirt ∨ i ∈ p.frozenVirt)) := by
  simp only [classify, List.mem_filter, mem_occupied, mem_virtuals, mem_pick, Bool.not_eq_true', List.contains_eq_mem,
    decide_eq_false_iff_not]
  refine ⟨fun h => h.1.2 h.2, fun h => h.1.2 h.2, ?_⟩
  -- an occupied class has `occ[i] > 0`, a virtual class `occ[i] = 0`
  rintro ⟨h1 | h1, h2 | h2⟩ <;> omega

theorem frozen_iff (occ : List Nat) (spec : Spec) (i : Nat) :
    let p := classify occ spec
    (i ∈ p.frozenOcc ∨ i ∈ p.frozenVirt) ↔ ((i : Int) ∈ frozenList spec ∧ i < occ.length) := by
  simp only [classify, mem_pick, mem_occupied, mem_virtuals]
  constructor
  · rintro (⟨h1, h2, _⟩ | ⟨h1, h2, _⟩) <;> exact ⟨h1, h2⟩
  · rintro ⟨h1, h2⟩
    by_cases ho : occ.getD i 0 > 0
    · exact Or.inl ⟨h1, h2, ho⟩
    · exact Or.inr ⟨h1, h2, by omega⟩

theorem frozen_int (k : Nat) (i : Nat) : (i : Int) ∈ frozenList (.int k) ↔ i < k := by
  simp [frozenList]

theorem active_sorted (occ : List Nat) (spec : Spec) :
    (classify occ spec).activeOcc.Pairwise (· < ·) ∧ (classify occ spec).activeVirt.Pairwise (· < ·) := by
  have hr : ∀ n, (List.range n).Pairwise (· < ·) := fun n => List.pairwise_lt_range
  constructor <;> simp only [classify, occupied, virtuals] <;> exact ((hr _).filter _).filter _

/-- rejected exactly when no active electron is left or every active orbital is doubly occupied -/
theorem partition_none_iff (occ : List Nat) (spec : Spec) :
    partition occ spec = none ↔
      (nActiveElectrons occ (classify occ spec) = 0 ∨
       nActiveElectrons occ (classify occ spec) = 2 * ((classify occ spec).activeOcc.length + (classify occ spec).activeVirt.length)) := by
  simp only [partition]
  split_ifs <;> simp [*]

theorem partition_some (occ : List Nat) (spec : Spec) (p : Partition) (h : partition occ spec = some p) : p = classify occ spec := by
  simp only [partition] at h
  split_ifs at h
  exact (Option.some.inj h).symm

theorem alpha_beta (n spin : Nat) (hp : n % 2 = spin % 2) (hs : spin ≤ n) :
    nAlpha n spin + nBeta n spin = n ∧ nAlpha n spin = nBeta n spin + spin := by
  -- `nBeta` subtracts in ℕ; `spin ≤ n` gives `spin / 2 ≤ n / 2`, so nothing is cut off
  unfold nAlpha nBeta; omega

/-- with mismatched parity the formulas do not return the requested spin -/
theorem alpha_beta_parity (n spin : Nat) (h : nAlpha n spin = nBeta n spin + spin) (hs : spin ≤ n) : n % 2 = spin % 2 := by
  unfold nAlpha nBeta at h; omega

section fold
open Finset
variable {R : Type} [CommRing R] {ι : Type} [DecidableEq ι]

/-- closed-shell energy functional of a determinant occupying the orbitals `O` doubly:
    Σ 2 h_i + Σ_{ij} W_ij with W = 2J − K -/
def emf (h : ι → R) (W : ι → ι → R) (O : Finset ι) : R := ∑ i ∈ O, 2 * h i + ∑ i ∈ O, ∑ j ∈ O, W i j

/-- **frozen-core folding**: the energy of core ∪ active equals the core constant, plus the active
    functional with the one-body part corrected by the core's Coulomb/exchange field -/
theorem fold_core (h : ι → R) (W : ι → ι → R) (hW : ∀ i j, W i j = W j i) (F A : Finset ι) (hd : Disjoint F A) :
    emf h W (F ∪ A) = emf h W F + emf (fun p => h p + ∑ i ∈ F, W p i) W A := by
  unfold emf
  rw [sum_union hd, sum_sum_union W hd hd, sum_sum_symm W hW F A]
  simp only [sum_add_distrib, mul_add, ← mul_sum]
  ring

/-- unrestricted mean-field functional of a determinant with alpha orbitals `Oa` and beta orbitals `Ob`:
    Σ_α hα + Σ_β hβ + Σ_{αα} Wαα + Σ_{ββ} Wββ + Σ_{αβ} Jαβ   (Wσσ = ½(J − K) of that spin, symmetric) -/
def emfU (ha hb : ι → R) (Waa Wbb Jab : ι → ι → R) (Oa Ob : Finset ι) : R :=
  ∑ i ∈ Oa, ha i + ∑ i ∈ Ob, hb i + ∑ i ∈ Oa, ∑ j ∈ Oa, Waa i j + ∑ i ∈ Ob, ∑ j ∈ Ob, Wbb i j + ∑ i ∈ Oa, ∑ j ∈ Ob, Jab i j

/-- **frozen-core folding, unrestricted**, with *different* frozen sets for the two spins: the core constant contains
    the alpha-beta Coulomb repulsion between frozen alpha and frozen beta orbitals; the active one-body parts carry the
    same-spin Coulomb/exchange field of the frozen orbitals of that spin and the Coulomb field of those of the other -/
theorem fold_core_uhf (ha hb : ι → R) (Waa Wbb Jab : ι → ι → R)
    (hWa : ∀ i j, Waa i j = Waa j i) (hWb : ∀ i j, Wbb i j = Wbb j i)
    (Fa Aa Fb Ab : Finset ι) (hda : Disjoint Fa Aa) (hdb : Disjoint Fb Ab) :
    emfU ha hb Waa Wbb Jab (Fa ∪ Aa) (Fb ∪ Ab) =
      emfU ha hb Waa Wbb Jab Fa Fb +
      emfU (fun p => ha p + 2 * ∑ i ∈ Fa, Waa p i + ∑ j ∈ Fb, Jab p j)
           (fun p => hb p + 2 * ∑ i ∈ Fb, Wbb p i + ∑ i ∈ Fa, Jab i p) Waa Wbb Jab Aa Ab := by
  unfold emfU
  rw [sum_union hda, sum_union hdb, sum_sum_union Waa hda hda, sum_sum_union Wbb hdb hdb, sum_sum_union Jab hda hdb,
    sum_sum_symm Waa hWa Fa Aa, sum_sum_symm Wbb hWb Fb Ab, sum_comm (s := Fa) (t := Ab)]
  simp only [sum_add_distrib, ← mul_sum]
  ring

end fold

-- the entries −1 and 9 of the list name no orbital and are ignored
example : partition [2, 2, 1, 0, 0] (.list [0, 4, -1, 9]) = some ⟨[1, 2], [0], [3], [4]⟩ := by decide
example : partition [2, 2, 0] (.list [2]) = none := by decide
example : nAlpha 5 3 = 4 ∧ nBeta 5 3 = 1 := by decide

end Tangelo.C04
