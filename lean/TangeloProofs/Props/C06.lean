import TangeloModel.PauliExp
import TangeloProofs.Lemmas.OpInverse
import TangeloProofs.CycLaws
import TangeloProofs.Lemmas.PauliWords
import TangeloProofs.Lemmas.BasisChange
/-!
# C06 — Pauli-exponential and time-evolution circuits implement exp(−itH)

`e θ = exp(iθ/2)`; a coefficient `c` is the exact angle `γ`, the rotation angle is `γ+γ = 2c`,
`exp(−ic) = e (−(γ+γ))`, `cos c = cosH (γ+γ)`, `−i sin c = misinH (γ+γ)`.
-/
namespace Tangelo.C06
open Tangelo PauliExp
variable {R : Type} [CommRing R]

/-- basis permutation of CNOT(control a, target b) -/
def cnotB (a b : Nat) (x : Bits) : Bits := x.set b (xor (x b) (x a))

theorem cnot_sem (k : Consts R) (a b : Nat) (hab : a ≠ b) (ψ : State R) (x : Bits) :
    (Op.one .X 0 b [a]).sem k ψ x = ψ (cnotB a b x) := by
  simp only [Op.sem, ctl, List.all_cons, List.all_nil, Bool.and_true, cnotB]
  cases x a
  · rw [Bool.xor_false, Bits.set_self]; rfl
  · rw [if_pos rfl, app1_anti_apply _ b ψ x rfl rfl, Bool.xor_true]
    exact (congrArg (· * _) (ite_self _)).trans (one_mul _)

theorem cnotB_target (a b : Nat) (x : Bits) : cnotB a b x b = xor (x b) (x a) := Bits.set_same _ _ _

theorem cnotB_other (a b : Nat) (x : Bits) {q : Nat} (h : q ≠ b) : cnotB a b x q = x q := Bits.set_other _ _ _ _ h

theorem cnotB_invol (a b : Nat) (hab : a ≠ b) (x : Bits) : cnotB a b (cnotB a b x) = x := by
  funext q
  by_cases hq : q = b
  · subst hq
    rw [cnotB_target, cnotB_target, cnotB_other a q x hab, Bool.xor_assoc, Bool.xor_self, Bool.xor_false]
  · rw [cnotB_other _ _ _ hq, cnotB_other _ _ _ hq]

def parity (l : List Nat) (x : Bits) : Bool := l.foldr (fun q acc => xor (x q) acc) false

/-- the operations of `cnotLadder` -/
def ladderOps : List Nat → List Op
  | a :: b :: rest => Op.one .X 0 b [a] :: ladderOps (b :: rest)
  | _ => []

/-- the basis permutation of the whole ladder `ladderOps l`: its `cnotB`s in order -/
def ladderPerm : List Nat → Bits → Bits
  | a :: b :: rest, x => ladderPerm (b :: rest) (cnotB a b x)
  | _, x => x

theorem parity_cnotB_tail (a b : Nat) (l : List Nat) (hb : b ∉ l) (x : Bits) : parity l (cnotB a b x) = parity l x :=
  List.foldr_ext _ _ _ fun q hq _ => by rw [cnotB_other a b x (ne_of_mem_of_not_mem hq hb)]

/-- the idea of the ladder: every CNOT adds the parity collected so far into the next qubit, so after the ladder the
    last qubit of `l` holds the parity of `x` on `l` -/
theorem ladderPerm_last : ∀ (l : List Nat) (hne : l ≠ []) (_ : l.Nodup) (x : Bits),
    ladderPerm l x (l.getLast hne) = parity l x
  | [a], _, _, x => (Bool.xor_false _).symm
  | a :: b :: rest, _, hnd, x => by
    obtain ⟨-, hnd'⟩ := List.nodup_cons.mp hnd
    rw [ladderPerm, List.getLast_cons (List.cons_ne_nil b rest), ladderPerm_last (b :: rest) _ hnd']
    show xor (cnotB a b x b) (parity rest (cnotB a b x)) = xor (x a) (xor (x b) (parity rest x))
    rw [parity_cnotB_tail a b rest (List.nodup_cons.mp hnd').1, cnotB_target, Bool.xor_comm (x b), Bool.xor_assoc]

theorem ladderPerm_other : ∀ (l : List Nat) (x : Bits) (q : Nat), q ∉ l → ladderPerm l x q = x q
  | [], _, _, _ => rfl
  | [_], _, _, _ => rfl
  | a :: b :: rest, x, q, hq => by
    rw [ladderPerm, ladderPerm_other (b :: rest) _ q (fun h => hq (List.mem_cons_of_mem _ h)),
      cnotB_other a b x fun e => hq (e ▸ List.mem_cons_of_mem _ List.mem_cons_self)]

/-- conjugation by the ladder permutes the diagonal of `D`: each CNOT is its own inverse -/
theorem ladderPerm_invol_sem (k : Consts R) : ∀ (l : List Nat) (_ : l.Nodup) (D : State R → State R) (f : Bits → R),
    (∀ ψ x, D ψ x = f x * ψ x) → ∀ ψ x,
    semOps k (ladderOps l).reverse (D (semOps k (ladderOps l) ψ)) x = f (ladderPerm l x) * ψ x
  | [], _, _, _, hD, ψ, x => hD ψ x
  | [_], _, _, _, hD, ψ, x => hD ψ x
  | a :: b :: rest, hnd, D, f, hD, ψ, x => by
    obtain ⟨ha, hnd'⟩ := List.nodup_cons.mp hnd
    have hab : a ≠ b := fun e => ha (e ▸ List.mem_cons_self)
    rw [ladderOps, List.reverse_cons, semOps_append, semOps_cons, semOps_cons, semOps_nil, cnot_sem k a b hab,
      ladderPerm_invol_sem k (b :: rest) hnd' D f hD, cnot_sem k a b hab, cnotB_invol a b hab, ladderPerm]

theorem diag_sem (k : Consts R) (em ep : R) (t : Nat) (cs : List Nat) (ψ : State R) (x : Bits) :
    ctl cs (app1 ⟨em, 0, 0, ep⟩ t) ψ x = (if cs.all (fun c => x c) then (if x t then ep else em) else 1) * ψ x := by
  simp only [ctl]
  split
  · exact app1_diag_apply _ t ψ x rfl rfl
  · exact (one_mul _).symm

/-- **CNOT ladder lemma.** Ladder · (C)RZ(θ) on the last qubit · reversed ladder multiplies the amplitude of `x` by
    `e(θ)` if the parity of `x` on the support `l` is odd, by `e(−θ)` if even, when all controls are 1, and leaves it
    unchanged otherwise. -/
theorem ladder_rz_sem (k : Consts R) (l : List Nat) (hne : l ≠ []) (hnd : l.Nodup) (cs : List Nat)
    (hcs : ∀ c ∈ cs, c ∉ l) (θ : Ang) (ψ : State R) (x : Bits) :
    semOps k (ladderOps l ++ [Op.one .RZ θ (l.getLast hne) cs] ++ (ladderOps l).reverse) ψ x
      = (if cs.all (fun c => x c) then (if parity l x then k.e θ else k.e (-θ)) else 1) * ψ x := by
  -- `diag_sem` fits `Op.sem k (.one .RZ θ _ cs)` as it stands: by definition that is `ctl cs (app1 ⟨e(−θ), 0, 0, e θ⟩ _)`
  rw [semOps_append, semOps_append, semOps_cons, semOps_nil,
    ladderPerm_invol_sem k l hnd (Op.sem k (.one .RZ θ _ cs)) _ (diag_sem k _ _ _ cs), ladderPerm_last l hne hnd,
    all_congr_of_mem fun c hc => ladderPerm_other l x c (hcs c hc)]

/-- Z-type word: the ladder around (C)RZ(2c) is `cos c − i sin c · Z_l` where all controls are 1 (`hall`) -/
theorem exp_z_word (k : Consts R) (L : k.Laws) (l : List Nat) (hne : l ≠ []) (hnd : l.Nodup) (cs : List Nat)
    (hcs : ∀ c ∈ cs, c ∉ l) (γ : Ang) (ψ : State R) (x : Bits) (hall : cs.all (fun c => x c) = true) :
    semOps k (ladderOps l ++ [Op.one .RZ (γ + γ) (l.getLast hne) cs] ++ (ladderOps l).reverse) ψ x
      = k.cosH (γ + γ) * ψ x + k.misinH (γ + γ) * ((if parity l x then -1 else 1) * ψ x) := by
  rw [ladder_rz_sem k l hne hnd cs hcs, hall, if_pos rfl, L.e_eq, L.e_neg_eq]
  cases parity l x <;> simp only [Bool.false_eq_true, if_false, if_true] <;> ring

/-- the angle `4π + 2c` written for a negative coefficient denotes the same rotation as `2c` -/
theorem rotAngle_same (k : Consts R) (L : k.Laws) (γ : Ang) (b : Base) :
    baseMatrix k b (rotAngle γ false) = baseMatrix k b (rotAngle γ true) := by
  simp only [rotAngle, Bool.false_eq_true, if_false, if_true]
  rw [Ang.add_comm', L.baseMatrix_add_four_pi]

/-- the `d` and `a` entries of the RZ matrices that `rotAngle_same` equates -/
theorem e_rotAngle (k : Consts R) (L : k.Laws) (γ : Ang) (nonneg : Bool) :
    k.e (rotAngle γ nonneg) = k.e (γ + γ) ∧ k.e (-rotAngle γ nonneg) = k.e (-(γ + γ)) := by
  cases nonneg
  · exact ⟨congrArg M2.d (rotAngle_same k L γ .RZ), congrArg M2.a (rotAngle_same k L γ .RZ)⟩
  · exact ⟨rfl, rfl⟩

/-- identity terms contribute `exp(−ic) = e(−γ)²`: `PHASE(−c)` on a single control `q`; `CPHASE(−c)` on `q`
    controlled by `cs` for the control list `q :: cs` -/
theorem identity_term_controlled (k : Consts R) (γ : Ang) (q : Nat) (cs : List Nat) (ψ : State R) (x : Bits) :
    (Op.one .PHASE (-γ) q cs).sem k ψ x =
      (if cs.all (fun c => x c) then (if x q then k.e (-γ) * k.e (-γ) else 1) else 1) * ψ x :=
  diag_sem k 1 (k.e (-γ) * k.e (-γ)) q cs ψ x

/-- e(π/2) = (1+i)/√2, the same proposition as `Tangelo.HalfPi`: a hypothesis of the theorems about the Y letter,
    which their proofs do not use (`rx_conj_Z` needs `e(π) = i` only) -/
def HalfPiLaw (k : Consts R) : Prop := k.e (Ang.piQuarter 2) = (1 + k.i) * k.rsqrt2

/-- `H · RZ(2c) · H = cos c − i sin c · X` -/
theorem x_letter (k : Consts R) (L : k.Laws) (θ : Ang) :
    (baseMatrix k .H 0).mul ((baseMatrix k .RZ θ).mul (baseMatrix k .H 0)) =
      ⟨k.cosH θ, k.misinH θ, k.misinH θ, k.cosH θ⟩ :=
  (conj_rz k L _ _ _ (base_inverse k L .H 0) (h_conj_Z k L) θ).trans (by simp [baseMatrix])

/-- `RX(−π/2) · RZ(2c) · RX(π/2) = cos c − i sin c · Y` -/
theorem y_letter (k : Consts R) (L : k.Laws) (hp : HalfPiLaw k) (θ : Ang) :
    (baseMatrix k .RX (Ang.piQuarter (-2))).mul ((baseMatrix k .RZ θ).mul (baseMatrix k .RX (Ang.piQuarter 2))) =
      ⟨k.cosH θ, -(k.i * k.misinH θ), k.i * k.misinH θ, k.cosH θ⟩ :=
  (conj_rz k L _ _ _ (base_inverse k L .RX (Ang.piQuarter 2)) (rx_conj_Z k L) θ).trans
    (by simp [baseMatrix, mul_comm])

theorem cnotLadder_ops : ∀ (l : List Nat), gatesToOps (cnotLadder l) = some (ladderOps l)
  | [] => rfl
  | [_] => rfl
  | a :: b :: rest => by
    rw [cnotLadder, ladderOps, gatesToOps_cons, cnotLadder_ops (b :: rest)]
    rfl

theorem gatesToOps_append' (xs ys : List Gate) (ox oy : List Op) (hx : gatesToOps xs = some ox) (hy : gatesToOps ys = some oy) :
    gatesToOps (xs ++ ys) = some (ox ++ oy) := gatesToOps_append hx hy

theorem gatesToOps_reverse' (xs : List Gate) (ox : List Op) (hx : gatesToOps xs = some ox) :
    gatesToOps xs.reverse = some ox.reverse := gatesToOps_reverse hx

def allZ (w : PWord) : Bool := w.all (fun f => f.2 == Pauli.Z)

theorem filterMap_basis_allZ (w : PWord) (inv : Bool) (h : allZ w = true) :
    w.filterMap (fun (f : Nat × Pauli) => basisGate f.1 f.2 inv) = [] := by
  rw [List.filterMap_eq_nil_iff]
  intro f hf
  have hf2 : f.2 = Pauli.Z := by simpa using List.all_eq_true.mp h f hf
  rw [hf2]; rfl

theorem allZ_reverse (w : PWord) (h : allZ w = true) : allZ w.reverse = true := List.all_reverse.trans h

/-- what `basisGate` reads as (`basis_gates_ops`) -/
def basisOp (i : Nat) (p : Pauli) (inverse : Bool) : Option Op :=
  match p with
  | .X => some (Op.one .H 0 i [])
  | .Y => some (Op.one .RX (if inverse then Ang.piQuarter (-2) else Ang.piQuarter 2) i [])
  | .Z => none

theorem gatesToOps_cons_some (g : Gate) (gs : List Gate) (o : Op) (os : List Op) (h1 : g.toOp = some o)
    (h2 : gatesToOps gs = some os) : gatesToOps (g :: gs) = some (o :: os) := by
  rw [gatesToOps_cons, h1, h2]; rfl

theorem basis_gates_ops (w : PWord) (inv : Bool) :
    gatesToOps (w.filterMap (fun (f : Nat × Pauli) => basisGate f.1 f.2 inv)) = some (w.filterMap (fun f => basisOp f.1 f.2 inv)) :=
  gatesToOps_filterMap (fun ⟨_, p⟩ => by cases p <;> rfl) w

theorem insertSorted_eq (q : Nat) (l : List Nat) : insertSorted q l = l.orderedInsert (· ≤ ·) q := by
  induction l with
  | nil => rfl
  | cons a as ih => rw [insertSorted, List.orderedInsert_cons, ih]

theorem insertSorted_perm (q : Nat) (l : List Nat) : (insertSorted q l).Perm (q :: l) :=
  insertSorted_eq q l ▸ List.perm_orderedInsert _ q l

theorem sortNat_perm (l : List Nat) : (sortNat l).Perm l := by
  induction l with
  | nil => exact .refl _
  | cons a as ih => exact (insertSorted_perm a _).trans (ih.cons a)

theorem sortNat_ne_nil' : ∀ (l : List Nat), l ≠ [] → sortNat l ≠ [] :=
  fun l h e => h ((e ▸ sortNat_perm l).symm.eq_nil)

/-- what `gates` emits: basis changes, CNOT ladder over the sorted support `l`, the rotation on the last qubit of `l`,
    the ladder back, the inverse basis changes in reverse order -/
theorem gates_ops (w : PWord) (γ : Ang) (nonneg var : Bool) (ctl : Option (List Nat)) (l : List Nat)
    (hl : sortNat (w.map (·.1)) = l) (hne : l ≠ []) :
    ∃ gs, gates w γ nonneg var ctl = some gs ∧ gatesToOps gs = some
      (w.filterMap (fun f => basisOp f.1 f.2 false)
        ++ (ladderOps l ++ [Op.one .RZ (rotAngle γ nonneg) (l.getLast hne) (ctl.getD [])] ++ (ladderOps l).reverse)
        ++ w.reverse.filterMap (fun f => basisOp f.1 f.2 true)) := by
  obtain ⟨rot, hrot, hg⟩ : ∃ rot : Gate, rot.toOp = some (Op.one .RZ (rotAngle γ nonneg) (l.getLast hne) (ctl.getD [])) ∧
      gates w γ nonneg var ctl = some (w.filterMap (fun f => basisGate f.1 f.2 false) ++ cnotLadder l ++ [rot]
        ++ (cnotLadder l).reverse ++ w.reverse.filterMap (fun f => basisGate f.1 f.2 true)) := by
    cases ctl with
    | none => exact ⟨⟨"RZ", [l.getLast hne], none, .ang (rotAngle γ nonneg), var⟩, rfl,
        by simp only [gates, hl, List.getLast?_eq_some_getLast hne]⟩
    | some cs => exact ⟨⟨"CRZ", [l.getLast hne], some cs, .ang (rotAngle γ nonneg), var⟩, rfl,
        by simp only [gates, hl, List.getLast?_eq_some_getLast hne]⟩
  have hlad := cnotLadder_ops l
  refine ⟨_, hg, ?_⟩
  simpa only [List.append_assoc] using gatesToOps_append (gatesToOps_append (basis_gates_ops w false)
    (gatesToOps_append (gatesToOps_append hlad (gatesToOps_cons_some rot [] _ [] hrot rfl)) (gatesToOps_reverse hlad)))
    (basis_gates_ops w.reverse true)

/-- **`exp_pauliword_to_gates` on a Z-type word**: the emitted gate list denotes the parity-controlled phase on the
    support `l` (the sorted indices of the word), for both sign branches of the coefficient, with or without control. -/
theorem exp_pauliword_z (k : Consts R) (L : k.Laws) (w : PWord) (γ : Ang) (nonneg var : Bool) (ctl : Option (List Nat))
    (l : List Nat) (hl : sortNat (w.map (·.1)) = l)
    (hz : allZ w = true) (hne : l ≠ []) (hnd : l.Nodup) (hcs : ∀ c ∈ ctl.getD [], c ∉ l) :
    ∃ gs ops, gates w γ nonneg var ctl = some gs ∧ gatesToOps gs = some ops ∧
      ∀ (ψ : State R) (x : Bits), semOps k ops ψ x =
        (if (ctl.getD []).all (fun c => x c) then (if parity l x then k.e (γ + γ) else k.e (-(γ + γ))) else 1) * ψ x := by
  obtain ⟨gs, hg, ho⟩ := gates_ops w γ nonneg var ctl l hl hne
  -- a Z-type word has no basis changes: `filterMap_basis_allZ` says so of the gates, and `basis_gates_ops` carries it to
  -- the operations
  have hnil : ∀ (v : PWord) (inv : Bool), allZ v = true → v.filterMap (fun f => basisOp f.1 f.2 inv) = [] := fun v inv hv =>
    Option.some.inj ((basis_gates_ops v inv).symm.trans (congrArg gatesToOps (filterMap_basis_allZ v inv hv)))
  rw [hnil w false hz, hnil w.reverse true (allZ_reverse w hz), List.nil_append, List.append_nil] at ho
  refine ⟨gs, _, hg, ho, fun ψ x => ?_⟩
  rw [ladder_rz_sem k l hne hnd _ hcs, (e_rotAngle k L γ nonneg).1, (e_rotAngle k L γ nonneg).2]

theorem mapM_some_length {α β : Type} (f : α → Option β) : ∀ (l : List α) (r : List β), l.mapM f = some r → r.length = l.length
  | [], r, h => by cases h; rfl
  | a :: as, r, h => by
    simp only [List.mapM_cons, Option.bind_eq_bind, Option.bind_eq_some_iff, Option.pure_def, Option.some.injEq] at h
    obtain ⟨b, -, bs, hbs, rfl⟩ := h
    rw [List.length_cons, List.length_cons, mapM_some_length f as bs hbs]

theorem order2_palindrome (ts : Terms) (t : Int) (r : Terms) (h : decompose ts 2 t = some r) :
    ∃ half : Terms, r = half ++ half.reverse ∧ half.length = ts.length := by
  rw [decompose, if_neg (by decide), if_pos (by decide)] at h
  obtain ⟨half, hh, h⟩ := Option.bind_eq_some_iff.mp h
  exact ⟨half, (Option.some.inj h).symm, mapM_some_length _ ts half hh⟩

/-- `circuit * n_trotter_steps` -/
theorem steps_power (k : Consts R) (ops : List Op) (n : Nat) (ψ : State R) :
    semOps k (List.flatten (List.replicate n ops)) ψ = (fun φ => semOps k ops φ)^[n] ψ :=
  semOps_flatten_replicate k ops n ψ

example : ∃ gs, gates [(0, .Z), (2, .Z)] (Ang.piQuarter 1) true false (some [5]) = some gs ∧ gs.length = 3 := ⟨_, rfl, rfl⟩
example : allZ [(0, .Z), (2, .Z)] = true ∧ (sortNat [0, 2]).Nodup ∧ sortNat [0, 2] ≠ [] := by decide

/-! ## the general Pauli word (any mix of X, Y, Z letters), with or without control

With `B` the product of the basis changes, `D` the (controlled) parity phase of the Z-type core and `P_w` the Pauli word:
`B⁻¹ D B = α·1 + β·P_w` with `(α, β) = (cos c, −i sin c)` where all control bits are 1 and `(1, 0)` elsewhere. -/
section general
variable {S : Type} [CommRing S] [StarRing S]

/-- the basis change `exp_pauliword_to_gates` puts before the ladder for a letter: H for X, RX(π/2) for Y, none for Z -/
def Bf (k : Consts S) : Pauli → M2 S
  | .X => baseMatrix k .H 0
  | .Y => baseMatrix k .RX (Ang.piQuarter 2)
  | .Z => M2.one

/-- its inverse, put after the ladder -/
def Bi (k : Consts S) : Pauli → M2 S
  | .X => baseMatrix k .H 0
  | .Y => baseMatrix k .RX (Ang.piQuarter (-2))
  | .Z => M2.one

theorem sem_one_nil (k : Consts S) (b : Base) (θ : Ang) (t : Nat) (ψ : State S) :
    (Op.one b θ t []).sem k ψ = app1 (baseMatrix k b θ) t ψ := Op.sem_one_nil k b θ t ψ

theorem sem_basis_ops_fwd (k : Consts S) (w : PWord) (ψ : State S) :
    semOps k (w.filterMap (fun f => basisOp f.1 f.2 false)) ψ = wordOps (Bf k) w ψ :=
  semOps_filterMap_word k _ _
    (fun ⟨i, p⟩ ψ => by cases p; exacts [Op.sem_one_nil .., Op.sem_one_nil .., (app1_one i ψ).symm]) w ψ

theorem sem_basis_ops_inv (k : Consts S) (w : PWord) (ψ : State S) :
    semOps k (w.filterMap (fun f => basisOp f.1 f.2 true)) ψ = wordOps (Bi k) w ψ :=
  semOps_filterMap_word k _ _
    (fun ⟨i, p⟩ ψ => by cases p; exacts [Op.sem_one_nil .., Op.sem_one_nil .., (app1_one i ψ).symm]) w ψ

theorem wordOps_append_one (F : Pauli → M2 S) (w : PWord) (q : Nat) (p : Pauli) (ψ : State S) :
    wordOps F (w ++ [(q, p)]) ψ = app1 (F p) q (wordOps F w ψ) := by
  simp [wordOps, List.foldl_append]

/-- one-qubit operators on distinct qubits commute, so the reversed word acts as the word -/
theorem wordOps_reverse (F : Pauli → M2 S) (w : PWord) (hnd : (w.map (·.1)).Nodup) (ψ : State S) :
    wordOps F w.reverse ψ = wordOps F w ψ := by
  induction w generalizing ψ with
  | nil => rfl
  | cons f fs ih =>
    obtain ⟨q, p⟩ := f
    obtain ⟨hq, hnd⟩ := List.nodup_cons.mp hnd
    rw [List.reverse_cons, wordOps_append_one, ih hnd, wordOps_cons, app1_wordOps_comm F (F p) q fs hq]

theorem wordOps_two (F1 F3 G : Pauli → M2 S) (hG : ∀ p, (F3 p).mul (F1 p) = G p)
    (w : PWord) (hnd : (w.map (·.1)).Nodup) (ψ : State S) :
    wordOps F3 w (wordOps F1 w ψ) = wordOps G w ψ := by
  induction w generalizing ψ with
  | nil => rfl
  | cons f fs ih =>
    obtain ⟨q, p⟩ := f
    obtain ⟨hq, hnd⟩ := List.nodup_cons.mp hnd
    rw [wordOps_cons, wordOps_cons, wordOps_cons, app1_wordOps_comm F1 (F3 p) q fs hq, ih hnd, app1_app1, hG p]

theorem wordOps_three (F1 F2 F3 G : Pauli → M2 S) (hG : ∀ p, (F3 p).mul ((F2 p).mul (F1 p)) = G p)
    (w : PWord) (hnd : (w.map (·.1)).Nodup) (ψ : State S) :
    wordOps F3 w (wordOps F2 w (wordOps F1 w ψ)) = wordOps G w ψ := by
  rw [wordOps_two F1 F2 (fun p => (F2 p).mul (F1 p)) (fun _ => rfl) w hnd, wordOps_two _ F3 G hG w hnd]

theorem wordOps_one (w : PWord) (ψ : State S) : wordOps (fun _ => (M2.one : M2 S)) w ψ = ψ :=
  List.foldl_fixed' (fun qp => app1_one qp.1 ψ) w

theorem app1_add (m : M2 S) (t : Nat) (a b : State S) :
    app1 m t (fun x => a x + b x) = fun x => app1 m t a x + app1 m t b x := by
  funext x; simp only [app1_apply]; ring

theorem app1_coef (m : M2 S) (t : Nat) (f : Bits → S) (hf : ∀ x b, f (x.set t b) = f x) (χ : State S) :
    app1 m t (fun x => f x * χ x) = fun x => f x * app1 m t χ x := by
  funext x; simp only [app1_apply, hf]; ring

theorem wordOps_add (F : Pauli → M2 S) (w : PWord) (a b : State S) :
    wordOps F w (fun x => a x + b x) = fun x => wordOps F w a x + wordOps F w b x :=
  List.foldl_hom₂ w (fun (a b : State S) x => a x + b x) _ _ _ a b fun a b qp => (app1_add (F qp.2) qp.1 a b).symm

theorem wordOps_coef (F : Pauli → M2 S) (w : PWord) (f : Bits → S)
    (hf : ∀ q ∈ w.map (·.1), ∀ x b, f (x.set q b) = f x) (χ : State S) :
    wordOps F w (fun x => f x * χ x) = fun x => f x * wordOps F w χ x :=
  (foldl_comm_of_forall _ (fun (φ : State S) x => f x * φ x) w
    (fun qp h φ => (app1_coef (F qp.2) qp.1 f (hf qp.1 (List.mem_map_of_mem h)) φ).symm) χ).symm

/-- `G_w (a·1 + b·M_w) F_w = a·1 + b·P_w` when `G p · F p = 1` and `G p · M p · F p = P p` for every letter and the
    coefficients `a`, `b` do not read the qubits of the word -/
theorem wordOps_conj (F M G P : Pauli → M2 S) (hone : ∀ p, (G p).mul (F p) = M2.one)
    (hP : ∀ p, (G p).mul ((M p).mul (F p)) = P p) (w : PWord) (hnd : (w.map (·.1)).Nodup) (a b : Bits → S)
    (ha : ∀ q ∈ w.map (·.1), ∀ x c, a (x.set q c) = a x) (hb : ∀ q ∈ w.map (·.1), ∀ x c, b (x.set q c) = b x)
    (ψ : State S) :
    wordOps G w (fun y => a y * wordOps F w ψ y + b y * wordOps M w (wordOps F w ψ) y)
      = fun y => a y * ψ y + b y * wordOps P w ψ y := by
  rw [wordOps_add, wordOps_coef G w a ha, wordOps_coef G w b hb, wordOps_two F G _ hone w hnd, wordOps_one,
    wordOps_three F M G P hP w hnd]

theorem parity_perm {l₁ l₂ : List Nat} (h : l₁.Perm l₂) (x : Bits) : parity l₁ x = parity l₂ x :=
  h.foldr_eq (lcomm := ⟨fun a b c => Bool.xor_left_comm (x a) (x b) c⟩) false

theorem parity_insertSorted (q : Nat) (l : List Nat) (x : Bits) : parity (insertSorted q l) x = xor (x q) (parity l x) :=
  parity_perm (insertSorted_perm q l) x

theorem parity_sortNat (l : List Nat) (x : Bits) : parity (sortNat l) x = parity l x :=
  parity_perm (sortNat_perm l) x

theorem paritySign_eq (w : PWord) (x : Bits) :
    paritySign (R := S) w x = if parity (w.map (·.1)) x then -1 else 1 := by
  induction w with
  | nil => rfl
  | cons f fs ih =>
    obtain ⟨q, p⟩ := f
    rw [paritySign_cons, ih]
    show _ = if xor (x q) (parity (fs.map (·.1)) x) then -1 else 1
    cases x q <;> cases parity (fs.map (·.1)) x <;> simp

theorem basis_conj_Z (k : Consts S) (L : k.Laws) (hp : HalfPi k) (p : Pauli) :
    (Bi k p).mul ((baseMatrix k .Z 0).mul (Bf k p)) = pauliMat k p := by
  cases p
  · exact h_conj_Z k L
  · exact rx_conj_Z k L
  · exact (M2.one_mul _).trans (M2.mul_one _)

theorem basis_cancel (k : Consts S) (L : k.Laws) (hp : HalfPi k) (p : Pauli) :
    (Bi k p).mul (Bf k p) = (M2.one : M2 S) := by
  cases p
  · exact base_inverse k L .H 0
  · exact base_inverse k L .RX (Ang.piQuarter 2)
  · exact M2.one_mul _

theorem e_split (k : Consts S) (L : k.Laws) (θ : Ang) :
    k.e θ = k.cosH θ - k.misinH θ ∧ k.e (-θ) = k.cosH θ + k.misinH θ :=
  ⟨L.e_eq θ, L.e_neg_eq θ⟩

/-- the core (ladder, rotation, ladder back) over the qubits of `w`, in any order, is the diagonal operator `α·1 + β·Z_w` -/
theorem core_sem (k : Consts S) (L : k.Laws) (w : PWord) (l : List Nat) (hl : l.Perm (w.map (·.1))) (hne : l ≠ [])
    (hnd : (w.map (·.1)).Nodup) (cs : List Nat) (hcs : ∀ c ∈ cs, c ∉ w.map (·.1)) (γ : Ang) (nonneg : Bool)
    (χ : State S) :
    semOps k (ladderOps l ++ [Op.one .RZ (rotAngle γ nonneg) (l.getLast hne) cs] ++ (ladderOps l).reverse) χ
      = fun y => (if cs.all (fun c => y c) then k.cosH (γ + γ) else 1) * χ y
          + (if cs.all (fun c => y c) then k.misinH (γ + γ) else 0) * wordOps (fun _ => baseMatrix k .Z 0) w χ y := by
  funext y
  rw [ladder_rz_sem k l hne (hl.nodup_iff.mpr hnd) cs (fun c hc hm => hcs c hc (hl.mem_iff.mp hm)),
    (e_rotAngle k L γ nonneg).1, (e_rotAngle k L γ nonneg).2, L.e_eq, L.e_neg_eq, zWord_sign, paritySign_eq, parity_perm hl]
  cases cs.all (fun c => y c) <;> cases parity (w.map (·.1)) y <;>
    simp only [Bool.false_eq_true, if_false, if_true] <;> ring1

/-- **`exp_pauliword_to_gates` for an arbitrary Pauli word** (any mix of X, Y, Z on distinct qubits, both sign branches
    of the angle rule, with or without a control list disjoint from the word): the emitted gate list implements
    `cos c · 1 − i sin c · P_w` where every control bit is 1 and the identity elsewhere. -/
theorem exp_pauliword_general (k : Consts S) (L : k.Laws) (hp : HalfPi k) (w : PWord) (γ : Ang) (nonneg var : Bool)
    (ctl : Option (List Nat)) (hne : w ≠ []) (hnd : (w.map (·.1)).Nodup) (hcs : ∀ c ∈ ctl.getD [], c ∉ w.map (·.1)) :
    ∃ gs ops, gates w γ nonneg var ctl = some gs ∧ gatesToOps gs = some ops ∧
      ∀ (ψ : State S) (x : Bits), semOps k ops ψ x =
        (if (ctl.getD []).all (fun c => x c) then k.cosH (γ + γ) else 1) * ψ x
        + (if (ctl.getD []).all (fun c => x c) then k.misinH (γ + γ) else 0) * wordOps (pauliMat k) w ψ x := by
  have hlne : sortNat (w.map (·.1)) ≠ [] := sortNat_ne_nil' _ (by simpa using hne)
  obtain ⟨gs, hg, ho⟩ := gates_ops w γ nonneg var ctl _ rfl hlne
  -- the coefficients read the control bits only
  have hind : ∀ u v : S, ∀ q ∈ w.map (·.1), ∀ (y : Bits) (b : Bool),
      (if (ctl.getD []).all (fun c => (y.set q b) c) then u else v) = if (ctl.getD []).all (fun c => y c) then u else v :=
    fun u v q hq y b => by rw [all_set_of_not_mem _ y q b fun hm => hcs q hm hq]
  refine ⟨gs, _, hg, ho, fun ψ x => ?_⟩
  -- basis change, core, inverse basis change (the reversed word acts as the word: distinct qubits)
  rw [semOps_append, semOps_append, sem_basis_ops_fwd, sem_basis_ops_inv, wordOps_reverse (Bi k) w hnd,
    core_sem k L w _ (sortNat_perm _) hlne hnd _ hcs,
    wordOps_conj (Bf k) _ (Bi k) (pauliMat k) (basis_cancel k L hp) (basis_conj_Z k L hp) w hnd _ _ (hind _ _) (hind _ _)]

end general

/-! ## time evolution under a diagonal (hence commuting) operator is exact

For terms that are identity words and Z-type words, `exp(−i t H)` is the diagonal operator whose entry at the basis
state `x` is the product of the term phases.  The emission loop of `get_exponentiated_qubit_operator_circuit` (`emit`,
uncontrolled) produces exactly that operator together with the returned phase, and `circuit * n_trotter_steps` its
`n`-th power - provided the float decision `abs(coef) > 1e-10` keeps every non-identity term (`keep` is a parameter of
the model). -/
section diagonal

/-- the loop body of `emit`, copied from the model: `emit_eq_foldlM` holds by `rfl` as long as the two stay the same text -/
def emitStep (d : CoefDecide) (variational : Bool) (control : Option (List Nat)) (acc : ExpOut) (wc : PWord × Ang) : Option ExpOut :=
  let (w, c) := wc
  match w with
  | [] =>
    match control with
    | none => some { acc with phaseAngle := acc.phaseAngle + c }
    | some [q] => some { acc with gates := acc.gates ++ [⟨"PHASE", [q], none, .ang (-c), variational⟩] }
    | some (q :: cs) => some { acc with gates := acc.gates ++ [⟨"CPHASE", [q], some cs, .ang (-c), variational⟩] }
    | some [] => none
  | _ =>
    if d.keep c then
      (gates w c (d.nonneg c) variational control).map (fun g => { acc with gates := acc.gates ++ g })
    else some acc

theorem emit_eq_foldlM (d : CoefDecide) (timed : Terms) (variational : Bool) (control : Option (List Nat)) :
    emit d timed variational control = timed.foldlM (emitStep d variational control) { gates := [], phaseAngle := 0 } := rfl

/-- the diagonal entry contributed by one term: 1 for the identity word (its phase is returned separately),
    `exp(∓ i c)` according to the parity of the word's qubits for a Z-type word -/
def termPhase (k : Consts R) (wc : PWord × Ang) (x : Bits) : R :=
  match wc.1 with
  | [] => 1
  | _ => if parity (sortNat (wc.1.map (·.1))) x then k.e (wc.2 + wc.2) else k.e (-(wc.2 + wc.2))

def phaseProd (k : Consts R) (timed : Terms) (x : Bits) : R := timed.foldr (fun wc acc => termPhase k wc x * acc) 1

/-- the separately returned phase angle: the sum of the identity-word coefficients -/
def identityAngle (timed : Terms) (a : Ang) : Ang := timed.foldl (fun a wc => if wc.1 = [] then a + wc.2 else a) a

/-- admissible term: identity word, or Z-type word on distinct qubits that the float decision keeps -/
def DiagTerm (d : CoefDecide) (wc : PWord × Ang) : Prop :=
  wc.1 = [] ∨ (allZ wc.1 = true ∧ (sortNat (wc.1.map (·.1))).Nodup ∧ d.keep wc.2 = true)

theorem emitStep_diag (k : Consts R) (L : k.Laws) (d : CoefDecide) (var : Bool) (acc : ExpOut) (wc : PWord × Ang)
    (h : DiagTerm d wc) :
    ∃ gs ops, emitStep d var none acc wc =
        some ⟨acc.gates ++ gs, if wc.1 = [] then acc.phaseAngle + wc.2 else acc.phaseAngle⟩ ∧
      gatesToOps gs = some ops ∧ ∀ (ψ : State R) (x : Bits), semOps k ops ψ x = termPhase k wc x * ψ x := by
  obtain ⟨w, c⟩ := wc
  cases w with
  | nil => exact ⟨[], [], by simp [emitStep], rfl, fun ψ x => (one_mul _).symm⟩
  | cons f fs =>
    obtain hd | ⟨hz, hnd, hk⟩ := h
    · cases hd
    · obtain ⟨gs, ops, hg, hgo, hsem⟩ := exp_pauliword_z k L (f :: fs) c (d.nonneg c) var none _ rfl hz
        (sortNat_ne_nil' _ (List.cons_ne_nil _ _)) hnd (fun _ h => nomatch h)
      exact ⟨gs, ops, by simp [emitStep, hk, hg], hgo, hsem⟩

/-- `emit_diagonal_exact` from an arbitrary accumulator `acc` (`aops`: what its gates read as), the form the induction
    over the term list needs -/
theorem emit_diag_from (k : Consts R) (L : k.Laws) (d : CoefDecide) (var : Bool) :
    ∀ (timed : Terms) (acc : ExpOut) (aops : List Op), (∀ wc ∈ timed, DiagTerm d wc) → gatesToOps acc.gates = some aops →
      ∃ out ops, timed.foldlM (emitStep d var none) acc = some out ∧ gatesToOps out.gates = some (aops ++ ops) ∧
        out.phaseAngle = identityAngle timed acc.phaseAngle ∧
        ∀ (ψ : State R) (x : Bits), semOps k ops ψ x = phaseProd k timed x * ψ x
  | [], acc, aops, _, ha => ⟨acc, [], rfl, by rwa [List.append_nil], rfl, fun ψ x => (one_mul _).symm⟩
  | wc :: rest, acc, aops, hall, ha => by
    obtain ⟨gs, ops1, hstep, hgo, hsem⟩ := emitStep_diag k L d var acc wc (hall wc List.mem_cons_self)
    obtain ⟨out, ops, h1, h2, h3, h4⟩ := emit_diag_from k L d var rest
      ⟨acc.gates ++ gs, if wc.1 = [] then acc.phaseAngle + wc.2 else acc.phaseAngle⟩ (aops ++ ops1)
      (fun wc h => hall wc (List.mem_cons_of_mem _ h)) (gatesToOps_append ha hgo)
    refine ⟨out, ops1 ++ ops, by rw [List.foldlM_cons, hstep]; exact h1, by rw [h2, List.append_assoc], h3, fun ψ x => ?_⟩
    rw [semOps_append, h4, hsem, mul_left_comm, ← mul_assoc]
    rfl

/-- **One step is exact.**  For an operator made of identity words and Z-type words, the
    emitted circuit denotes the diagonal operator `x ↦ Π_j exp(∓ i c_j)` - which is `exp(−i Σ_j c_j P_j)` without its
    identity part - and the returned phase angle is the sum of the identity coefficients. -/
theorem emit_diagonal_exact (k : Consts R) (L : k.Laws) (d : CoefDecide) (var : Bool) (timed : Terms)
    (hall : ∀ wc ∈ timed, DiagTerm d wc) :
    ∃ out ops, emit d timed var none = some out ∧ gatesToOps out.gates = some ops ∧
      out.phaseAngle = identityAngle timed 0 ∧
      ∀ (ψ : State R) (x : Bits), semOps k ops ψ x = phaseProd k timed x * ψ x :=
  emit_diag_from k L d var timed ⟨[], 0⟩ [] hall rfl

theorem gatesToOps_replicate (gs : List Gate) (ops : List Op) (h : gatesToOps gs = some ops) :
    ∀ n : Nat, gatesToOps (List.flatten (List.replicate n gs)) = some (List.flatten (List.replicate n ops)) :=
  Tangelo.gatesToOps_replicate h

/-- **Any number of steps is exact.**  `trotterize` repeats the one-step circuit `n` times; for a diagonal operator
    the result is the `n`-th power of the one-step diagonal. -/
theorem trotter_diagonal_exact (k : Consts R) (L : k.Laws) (d : CoefDecide) (var : Bool) (timed : Terms)
    (hall : ∀ wc ∈ timed, DiagTerm d wc) (n : Nat) :
    ∃ out ops, emit d timed var none = some out ∧
      gatesToOps (List.flatten (List.replicate n out.gates)) = some ops ∧
      ∀ (ψ : State R) (x : Bits), semOps k ops ψ x = (phaseProd k timed x) ^ n * ψ x := by
  obtain ⟨out, ops, h1, h2, _, h4⟩ := emit_diagonal_exact k L d var timed hall
  refine ⟨out, _, h1, gatesToOps_replicate _ _ h2 n, fun ψ x => ?_⟩
  rw [steps_power]
  induction n generalizing ψ with
  | zero => simp
  | succ n ih => rw [Function.iterate_succ_apply, ih, h4]; ring

/-- a term the float decision rejects leaves no trace in the circuit: this is the place where exactness would be lost -/
theorem emitStep_dropped (d : CoefDecide) (var : Bool) (ctl : Option (List Nat)) (acc : ExpOut) (f : Nat × Pauli) (fs : PWord) (c : Ang)
    (h : d.keep c = false) : emitStep d var ctl acc (f :: fs, c) = some acc := by
  simp [emitStep, h]

example : DiagTerm ⟨fun _ => true, fun _ => true⟩ ([(0, .Z), (2, .Z)], Ang.piQuarter 1) := Or.inr ⟨by decide, by decide, rfl⟩
example : DiagTerm ⟨fun _ => true, fun _ => true⟩ ([], Ang.piQuarter 1) := Or.inl rfl

end diagonal

/-- the law holds for `cycConsts`, the amplitudes the model driver computes -/
theorem halfPi_exec : HalfPiLaw cycConsts := cycConsts_halfPi

theorem x_letter_exec (θ : Ang) :
    (baseMatrix cycConsts .H 0).mul ((baseMatrix cycConsts .RZ θ).mul (baseMatrix cycConsts .H 0)) =
      ⟨cycConsts.cosH θ, cycConsts.misinH θ, cycConsts.misinH θ, cycConsts.cosH θ⟩ :=
  x_letter cycConsts cycConsts_laws θ

theorem y_letter_exec (θ : Ang) :
    (baseMatrix cycConsts .RX (Ang.piQuarter (-2))).mul ((baseMatrix cycConsts .RZ θ).mul (baseMatrix cycConsts .RX (Ang.piQuarter 2))) =
      ⟨cycConsts.cosH θ, -(cycConsts.i * cycConsts.misinH θ), cycConsts.i * cycConsts.misinH θ, cycConsts.cosH θ⟩ :=
  y_letter cycConsts cycConsts_laws halfPi_exec θ

theorem exp_pauliword_general_exec (w : PWord) (γ : Ang) (nonneg var : Bool)
    (ctl : Option (List Nat)) (hne : w ≠ []) (hnd : (w.map (·.1)).Nodup) (hcs : ∀ c ∈ ctl.getD [], c ∉ w.map (·.1)) :
    ∃ gs ops, gates w γ nonneg var ctl = some gs ∧ gatesToOps gs = some ops ∧
      ∀ (ψ : State Cyc) (x : Bits), semOps cycConsts ops ψ x =
        (if (ctl.getD []).all (fun c => x c) then cycConsts.cosH (γ + γ) else 1) * ψ x
        + (if (ctl.getD []).all (fun c => x c) then cycConsts.misinH (γ + γ) else 0) * wordOps (pauliMat cycConsts) w ψ x :=
  exp_pauliword_general cycConsts cycConsts_laws halfPi_exec w γ nonneg var ctl hne hnd hcs

theorem trotter_diagonal_exact_exec (d : CoefDecide) (var : Bool) (timed : Terms)
    (hall : ∀ wc ∈ timed, DiagTerm d wc) (n : Nat) :
    ∃ out ops, emit d timed var none = some out ∧
      gatesToOps (List.flatten (List.replicate n out.gates)) = some ops ∧
      ∀ (ψ : State Cyc) (x : Bits), semOps cycConsts ops ψ x = (phaseProd cycConsts timed x) ^ n * ψ x :=
  trotter_diagonal_exact cycConsts cycConsts_laws d var timed hall n

end Tangelo.C06
