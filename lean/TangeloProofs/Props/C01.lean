import TangeloModel.Backend
import TangeloProofs.Lemmas.OpInverse
import TangeloProofs.Lemmas.Isometry
import TangeloProofs.CycLaws
import TangeloProofs.Lemmas.SimRefines
/-!
# C01 — backend simulation matches the documented gate semantics

The documented semantics is the model (`Gate.toOp`, `Op.sem`); the backends are tied to it by the
exact-simulation correspondence.  Here: structure of the semantics, the index ↔ bitstring glue of
`backend.py`, norm preservation, and that the array simulator of the driver computes `semOps`.
-/
namespace Tangelo.C01
open Tangelo
variable {R : Type} [CommRing R]

theorem sem_nil (k : Consts R) (ψ : State R) : semOps k [] ψ = ψ := semOps_nil k ψ
theorem sem_cons (k : Consts R) (o : Op) (os : List Op) (ψ : State R) : semOps k (o :: os) ψ = semOps k os (o.sem k ψ) := semOps_cons k o os ψ
theorem sem_append (k : Consts R) (xs ys : List Op) (ψ : State R) :
    semOps k (xs ++ ys) ψ = semOps k ys (semOps k xs ψ) := semOps_append k xs ys ψ

/-- the sympy translator multiplies operators while iterating over the *reversed* gate list
    (`target_circuit *= gate`), i.e. builds Gₙ⋯G₁; applying that product is the same left fold -/
theorem sympy_product_order (k : Consts R) (ops : List Op) (ψ : State R) :
    ops.reverse.foldr (fun o acc => o.sem k acc) ψ = semOps k ops ψ := by
  simp [semOps, List.foldr_reverse]

theorem control_off (k : Consts R) (b : Base) (θ : Ang) (t : Nat) (cs : List Nat) (ψ : State R) (x : Bits)
    (h : cs.all (fun c => x c) = false) : (Op.one b θ t cs).sem k ψ x = ψ x := by
  simp [Op.sem, ctl, h]

theorem control_nil (k : Consts R) (b : Base) (θ : Ang) (t : Nat) (ψ : State R) :
    (Op.one b θ t []).sem k ψ = app1 (baseMatrix k b θ) t ψ := Op.sem_one_nil k b θ t ψ

/-! Amplitude index ↔ bitstring: `_int_to_binstr`. -/

theorem bitsMSB_eq (n i : Nat) : bitsMSB n i = (List.range n).reverse.map (fun q => i.testBit q) := by
  induction n generalizing i with
  | zero => rfl
  | succ n ih =>
    rw [bitsMSB, ih, List.range_succ_eq_map, List.reverse_cons, List.map_append, ← List.map_reverse, List.map_map]
    simp [Function.comp_def, Nat.testBit_succ, Nat.testBit_zero, BEq.beq]

theorem bitsMSB_length (n i : Nat) : (bitsMSB n i).length = n := by simp [bitsMSB_eq]

theorem bitsMSB_get (n i q : Nat) (hq : q < n) : (bitsMSB n i)[q]'(by rw [bitsMSB_length]; exact hq) = i.testBit (n - 1 - q) := by
  simp [bitsMSB_eq]

/-- `lsq_first`: qubit 0 is listed first and is the most significant bit of the amplitude index -/
theorem binstr_lsq_first (n i q : Nat) (hq : q < n) :
    (intToBinstr .lsqFirst i n true)[q]? = some (i.testBit (n - 1 - q)) := by
  simp only [intToBinstr, Bool.true_and, beq_self_eq_true, if_true]
  rw [List.getElem?_eq_getElem (by rw [bitsMSB_length]; exact hq), bitsMSB_get n i q hq]

/-- a backend that advertises `msq_first` gets the reversed string -/
theorem binstr_msq_first (n i q : Nat) (hq : q < n) :
    (intToBinstr .msqFirst i n true)[q]? = some (i.testBit q) := by
  have hne : (Order.msqFirst == Order.lsqFirst) = false := by decide
  simp [intToBinstr, hne, bitsMSB_eq, hq]

/-- no two amplitudes are merged into one key -/
theorem bitsMSB_injective (n i j : Nat) (hi : i < 2 ^ n) (hj : j < 2 ^ n) (h : bitsMSB n i = bitsMSB n j) : i = j := by
  rw [bitsMSB_eq, bitsMSB_eq, List.map_inj_left] at h
  -- the strings hold the bits below `n`, and the indices have no others
  refine bitsOf_injective i j ?_
  rw [← trunc_bitsOf n i hi, ← trunc_bitsOf n j hj]
  funext q
  simp only [trunc]
  split
  · exact h q (by simpa using ‹q < n›)
  · rfl

section isometry
variable {R : Type} [CommRing R] [StarRing R]

/-- **one gate**: any operation of the gate set (any control list, any position) whose qubits are
    distinct and inside the register preserves Σ|ψ|² -/
theorem op_isometry (k : Consts R) (L : k.Laws) (S : k.StarLaws) (n : Nat) (o : Op) (h : o.inReg n) (ψ : State R) :
    normSq n (o.sem k ψ) = normSq n ψ := Op.isometry k L S n o h ψ

/-- **any circuit**: exact outcome probabilities of any gate list sum to the norm of the input state -/
theorem circuit_isometry (k : Consts R) (L : k.Laws) (S : k.StarLaws) (n : Nat) (ops : List Op)
    (h : ∀ o ∈ ops, o.inReg n) (ψ : State R) : normSq n (semOps k ops ψ) = normSq n ψ :=
  semOps_isometry k L S n ops h ψ

end isometry

/-- the same over `Cyc`, the amplitudes the model driver computes -/
theorem circuit_isometry_exec (n : Nat) (ops : List Op) (h : ∀ o ∈ ops, o.inReg n) (ψ : State Cyc) :
    normSq n (semOps cycConsts ops ψ) = normSq n ψ :=
  semOps_isometry cycConsts cycConsts_laws cycConsts_starLaws n ops h ψ

/-- |0…0⟩ read off the bits themselves; `ket0` (SimRefines) is the same state given through the index map `toIdx`,
    the form in which the array simulator meets it -/
def zeroState (n : Nat) : State Cyc := fun x => if (List.range n).all (fun q => !x q) then 1 else 0

theorem zeroState_eq_ket0 (n : Nat) : zeroState n = ket0 n := by
  funext x
  have : (List.range n).all (fun q => !x q) = true ↔ toIdx n x = 0 := by simp [toIdx_eq_zero]
  simp only [zeroState, ket0, this]

theorem normSq_zero_state (n : Nat) : normSq n (zeroState n) = 1 := by
  rw [zeroState_eq_ket0, normSq, Finset.sum_eq_single_of_mem 0 (Finset.mem_range.mpr (Nat.two_pow_pos n))]
  · simp [ket0, toIdx_bitsOf n 0 (Nat.two_pow_pos n), wt]
  · intro i hi hne
    simp [ket0, toIdx_bitsOf n i (Finset.mem_range.mp hi), hne, wt]

/-- exact frequencies of any circuit started from |0…0⟩ sum to one -/
theorem prepared_state_normalised (n : Nat) (ops : List Op) (h : ∀ o ∈ ops, o.inReg n) :
    normSq n (semOps cycConsts ops (zeroState n)) = 1 := by
  rw [circuit_isometry_exec n ops h, normSq_zero_state]

theorem basisSV_zero_state (n : Nat) : basisSV n 0 = tabulate n (zeroState n) := by
  rw [zeroState_eq_ket0, basisSV_zero]

/-- **what the model driver computes is the specified state**: the array simulator started from |0…0⟩ returns the
    table of `semOps` applied to |0…0⟩ -/
theorem driver_state_is_specified (n : Nat) (ops : List Op) (h : ∀ o ∈ ops, o.inReg n) :
    simOps n ops (basisSV n 0) = tabulate n (semOps cycConsts ops (zeroState n)) :=
  zeroState_eq_ket0 n ▸ simOps_from_zero n ops fun o ho => (h o ho).2

/-- the same from a user-supplied initial state -/
theorem driver_state_is_specified_init (n : Nat) (ops : List Op) (h : ∀ o ∈ ops, o.inReg n) (ψ : State Cyc) :
    simOps n ops (tabulate n ψ) = tabulate n (semOps cycConsts ops ψ) :=
  simOps_tabulate n ops (fun o ho => (h o ho).2) ψ

example : intToBinstr .lsqFirst 4 3 true = [true, false, false] := by decide
example : intToBinstr .msqFirst 4 3 true = [false, false, true] := by decide

end Tangelo.C01
