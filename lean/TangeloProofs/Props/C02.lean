import TangeloModel.Measure
import TangeloProofs.CycRing
import TangeloProofs.CycLaws
import TangeloProofs.CycEval
import TangeloProofs.Lemmas.PauliWords
import TangeloProofs.Lemmas.BasisChange
import Mathlib.Tactic.Ring
import Mathlib.Tactic.NormNum
import Mathlib.Algebra.Order.Ring.Rat
import TangeloProofs.Lemmas.SimRefines
import Mathlib.Algebra.BigOperators.Fin
import TangeloProofs.Lemmas.ListSum
/-!
# C02 — expectation values equal ⟨ψ|H|ψ⟩ on every evaluation path
-/
namespace Tangelo.C02
open Tangelo
variable {R : Type} [CommRing R]

def signOf (p : Bool) : R := if p then -1 else 1

theorem foldl_add_eq_sum (g : (Bool × R) → R) (l : List (Bool × R)) (init : R) :
    l.foldl (fun acc pf => acc + g pf) init = init + (l.map g).sum :=
  Tangelo.foldl_add_eq_sum g l init

theorem expectSamples_eq (l : List (Bool × R)) : expectSamples l = (l.map (fun pf => signOf pf.1 * pf.2)).sum :=
  (foldl_add_of_step id (fun pf : Bool × R => signOf pf.1 * pf.2) _
    (fun acc pf => by cases pf.1 <;> simp [signOf, sub_eq_add_neg]) l 0).trans (zero_add _)

theorem varianceSamples_eq (l : List (Bool × R)) :
    varianceSamples l = (l.map (fun pf => pf.2 * ((expectSamples l - signOf pf.1) * (expectSamples l - signOf pf.1)))).sum :=
  (Tangelo.foldl_add_eq_sum _ l 0).trans (zero_add _)

/-- **variance identity**: on a normalised frequency list the reported one-term variance is 1 − E²
    (every sample value is ±1) -/
theorem variance_identity (l : List (Bool × R)) (hnorm : (l.map (·.2)).sum = 1) :
    varianceSamples l = 1 - expectSamples l * expectSamples l := by
  rw [varianceSamples_eq]
  have hE := expectSamples_eq l
  generalize expectSamples l = E at hE ⊢
  -- f (E − s)² = E² f − 2E (s f) + f since s² = 1; then sum
  have hs : ∀ pf : Bool × R, pf.2 * ((E - signOf pf.1) * (E - signOf pf.1)) =
      E * E * pf.2 + (-(2 * E) * (signOf pf.1 * pf.2) + pf.2) := by
    rintro ⟨p, f⟩; cases p <;> simp only [signOf, if_true, Bool.false_eq_true, if_false] <;> ring
  simp only [hs, List.sum_map_add, List.sum_map_mul_left, hnorm, ← hE]
  ring

/-- Σ cⱼ vⱼ accumulated from 0 in list order, the shape of the loop over the terms of an operator (`expectOp` of the
    model is this fold with `vⱼ = expectWord …`) -/
def linComb (cv : List (R × R)) : R := cv.foldl (fun acc (p : R × R) => acc + p.1 * p.2) 0

theorem linComb_eq (cv : List (R × R)) : linComb cv = (cv.map (fun p => p.1 * p.2)).sum :=
  (Tangelo.foldl_add_eq_sum _ cv 0).trans (zero_add _)

/-- evaluating the real-part operator and the imaginary-part operator separately and recombining as
    `re + i·im` gives the value of the operator with complex coefficients -/
theorem complex_split (i : R) (terms : List (R × R × R)) :   -- (re, im, ⟨P⟩)
    linComb (terms.map (fun t => (t.1 + i * t.2.1, t.2.2))) =
      linComb (terms.map (fun t => (t.1, t.2.2))) + i * linComb (terms.map (fun t => (t.2.1, t.2.2))) := by
  simp only [linComb_eq, List.map_map, Function.comp_def, add_mul, mul_assoc, List.sum_map_add, List.sum_map_mul_left]

/-- one round of the loop; for an identity word the value `nrm` is the norm of the state, so on a normalised state the term
    contributes its coefficient -/
theorem identity_term (c nrm : R) (rest : List (R × R)) : linComb ((c, nrm) :: rest) = c * nrm + linComb rest := by
  simp only [linComb_eq, List.map_cons, List.sum_cons]

theorem expectFromProbs_is_parity_sum (n : Nat) (a : SV) (w : PWord) :
    expectFromProbs n a w = ((sampleList a w).map (fun pf => signOf pf.1 * pf.2)).sum := expectSamples_eq _

/-- every row of the measurement-basis table regenerated from `measurement_basis_gates` satisfies
    B†·Z·B = letter (kernel computation in ℚ(ζ₁₆)) -/
theorem meas_basis_table_correct : measBasisOk = true := by
  unfold measBasisOk measBasisRowOk
  -- `baseMatrixQ` (CycEval) is `baseMatrix cycConsts` at nπ/4 in the form the kernel evaluates cheaply
  simp only [baseMatrixQ_eq]
  decide +kernel

section routes
open Finset
variable {S : Type} [CommRing S] [StarRing S]

/-- the rotations `measurement_basis_gates` emits: X ↦ RY(−π/2), Y ↦ RX(π/2), Z ↦ nothing -/
def docRot (k : Consts S) : Pauli → M2 S
  | .X => baseMatrix k .RY (Ang.piQuarter (-2))
  | .Y => baseMatrix k .RX (Ang.piQuarter 2)
  | .Z => M2.one

/-- each of them rotates Z into its letter: B†·Z·B = P -/
theorem docRot_ok (k : Consts S) (L : k.Laws) (T : k.StarLaws) (hp : HalfPi k) : RotOk k (docRot k) := by
  intro p
  cases p
  · exact (congrArg (M2.mul · _) (base_adj k L T .RY _)).trans (ry_conj_Z k L)
  · exact (congrArg (M2.mul · _) (base_adj k L T .RX _)).trans (rx_conj_Z k L)
  · exact (congrArg (M2.mul · _) M2.adj_one).trans ((M2.one_mul _).trans (M2.mul_one _))

/-- **both routes agree**: the parity rule applied to the exact outcome probabilities of the state rotated
    into the measurement basis equals the overlap ⟨ψ|P|ψ⟩ of the statevector route -/
theorem freq_route_eq_overlap (k : Consts S) (L : k.Laws) (T : k.StarLaws) (hp : HalfPi k) (n : Nat)
    (w : PWord) (hnd : (w.map (·.1)).Nodup) (hlt : ∀ qp ∈ w, qp.1 < n) (ψ : State S) :
    ∑ i ∈ range (2 ^ n), paritySign (R := S) w (bitsOf i) * wt (wordOps (docRot k) w ψ (bitsOf i))
      = inner n ψ (wordOps (pauliMat k) w ψ) :=
  parity_rule_eq_overlap k n (docRot k) (docRot_ok k L T hp) w hnd hlt ψ

/-- linearity: the same for a whole operator Σ c_w P_w -/
theorem freq_route_operator (k : Consts S) (L : k.Laws) (T : k.StarLaws) (hp : HalfPi k) (n : Nat)
    (terms : List (PWord × S)) (hnd : ∀ t ∈ terms, (t.1.map (·.1)).Nodup) (hlt : ∀ t ∈ terms, ∀ qp ∈ t.1, qp.1 < n) (ψ : State S) :
    (terms.map (fun t => t.2 * ∑ i ∈ range (2 ^ n), paritySign (R := S) t.1 (bitsOf i) * wt (wordOps (docRot k) t.1 ψ (bitsOf i)))).sum
      = (terms.map (fun t => t.2 * inner n ψ (wordOps (pauliMat k) t.1 ψ))).sum :=
  congrArg List.sum (List.map_congr_left fun t ht => by rw [freq_route_eq_overlap k L T hp n t.1 (hnd t ht) (hlt t ht) ψ])

end routes

/-- e(π/2) = (1+i)/√2 for the executable constants -/
theorem halfPi_exec : HalfPi cycConsts := cycConsts_halfPi

/-- both routes agree on the amplitudes the model driver computes -/
theorem freq_route_eq_overlap_exec (n : Nat) (w : PWord) (hnd : (w.map (·.1)).Nodup) (hlt : ∀ qp ∈ w, qp.1 < n) (ψ : State Cyc) :
    ∑ i ∈ Finset.range (2 ^ n), paritySign (R := Cyc) w (bitsOf i) * wt (wordOps (docRot cycConsts) w ψ (bitsOf i))
      = inner n ψ (wordOps (pauliMat cycConsts) w ψ) :=
  freq_route_eq_overlap cycConsts cycConsts_laws cycConsts_starLaws halfPi_exec n w hnd hlt ψ

/-- the measurement-basis table regenerated from /repo has exactly the rows from which `docRot` is written
    (the proofs below read the table in `measBasisOps_eq`) -/
theorem table_is_documented : Tables.measBasis = [("X", "RY", -2), ("Y", "RX", 2)] := by decide

-- `hnorm` of `variance_identity` is met by a two-outcome distribution, whose expectation is 3/4 − 1/4
example : (([(false, 3/4), (true, 1/4)] : List (Bool × ℚ)).map (·.2)).sum = 1 := by norm_num
example : expectSamples (R := ℚ) [(false, 3/4), (true, 1/4)] = 1/2 := by norm_num [expectSamples]

/-! The array driver: `expectWord` and `expectWordFreqRoute` on a tabulated state are the quantities above. -/

theorem foldl_pairs_sum (l : List (Cyc × Cyc)) (init : Cyc) :
    l.foldl (fun acc (p : Cyc × Cyc) => acc + Cyc.conj p.1 * p.2) init = init + (l.map (fun p => Cyc.conj p.1 * p.2)).sum :=
  Tangelo.foldl_add_eq_sum _ l init

theorem zip_ofFn {α β : Type} (m : Nat) (f : Fin m → α) (g : Fin m → β) :
    (List.ofFn f).zip (List.ofFn g) = List.ofFn (fun i => (f i, g i)) := by
  apply List.ext_getElem
  · simp
  · intro i h1 h2
    simp

theorem inner_tabulate (n : Nat) (φ χ : State Cyc) :
    SV.inner (tabulate n φ) (tabulate n χ) = inner n φ χ := by
  simp only [SV.inner, tabulate, inner]
  rw [← Array.foldl_toList, Array.toList_zip, Array.toList_ofFn, Array.toList_ofFn, zip_ofFn, foldl_pairs_sum, zero_add,
    List.map_ofFn, List.sum_ofFn, ← Fin.sum_univ_eq_sum_range (fun i => star (φ (bitsOf i)) * χ (bitsOf i)) (2 ^ n)]
  rfl

theorem pauliOp_sem (q : Nat) (p : Pauli) (ψ : State Cyc) :
    (pauliOp q p).sem cycConsts ψ = app1 (pauliMat cycConsts p) q ψ := by
  cases p <;> exact Op.sem_one_nil _ _ _ _ _

theorem semOps_word (w : PWord) (ψ : State Cyc) :
    semOps cycConsts (w.map (fun (qp : Nat × Pauli) => pauliOp qp.1 qp.2)) ψ = wordOps (pauliMat cycConsts) w ψ := by
  rw [← List.filterMap_eq_map]
  refine semOps_filterMap_word _ _ _ ?_ w ψ
  rintro ⟨q, p⟩ ψ
  exact pauliOp_sem q p ψ

/-- **the statevector route of the model driver is ⟨ψ|P|ψ⟩**: the number the driver returns (apply the word as a
    circuit to the array, take the array overlap) is `inner n ψ (P ψ)` -/
theorem expectWord_is_specified (n : Nat) (w : PWord) (hlt : ∀ qp ∈ w, qp.1 < n) (ψ : State Cyc) :
    expectWord n (tabulate n ψ) w = inner n ψ (wordOps (pauliMat cycConsts) w ψ) := by
  have hq : ∀ qp : Nat × Pauli, (pauliOp qp.1 qp.2).qubits = [qp.1] := fun qp => by cases qp.2 <;> rfl
  have hreg : ∀ o ∈ w.map (fun (qp : Nat × Pauli) => pauliOp qp.1 qp.2), ∀ q ∈ o.qubits, q < n := by
    simpa only [List.forall_mem_map, hq, List.mem_singleton, forall_eq] using hlt
  show SV.inner _ (simOps n (w.map fun qp => pauliOp qp.1 qp.2) _) = _
  rw [simOps_tabulate n _ hreg ψ, semOps_word, inner_tabulate]

theorem app1_one (q : Nat) (ψ : State Cyc) : app1 (M2.one : M2 Cyc) q ψ = ψ := Tangelo.app1_one q ψ

/-- the rotation the regenerated table prescribes for one letter -/
def rotOp (q : Nat) : Pauli → Option Op
  | .X => some (Op.one .RY (Ang.piQuarter (-2)) q [])
  | .Y => some (Op.one .RX (Ang.piQuarter 2) q [])
  | .Z => none

theorem measBasisOps_eq (w : PWord) : measBasisOps w = w.filterMap (fun qp => rotOp qp.1 qp.2) := by
  refine List.filterMap_congr ?_
  rintro ⟨q, p⟩ _
  cases p <;> rfl

theorem semOps_measBasis (w : PWord) (ψ : State Cyc) :
    semOps cycConsts (measBasisOps w) ψ = wordOps (docRot cycConsts) w ψ := by
  rw [measBasisOps_eq]
  refine semOps_filterMap_word _ _ _ ?_ w ψ
  rintro ⟨q, p⟩ ψ
  cases p
  · exact Op.sem_one_nil _ _ _ q ψ
  · exact Op.sem_one_nil _ _ _ q ψ
  · exact (app1_one q ψ).symm

theorem sum_map_range (m : Nat) (f : Nat → Cyc) : ((List.range m).map f).sum = ∑ i ∈ Finset.range m, f i :=
  Tangelo.sum_map_range m f

theorem parity_fold_sign (w : PWord) (i : Nat) (p : Bool) (s : Cyc) (h : s = signOf p) :
    signOf (w.foldl (fun p (qp : Nat × Pauli) => xor p (i.testBit qp.1)) p) =
      w.foldl (fun s (qp : Nat × Pauli) => if bitsOf i qp.1 then -s else s) s := by
  subst h
  -- `signOf` turns the parity update into the sign update
  exact (List.foldl_hom signOf fun p qp => by cases p <;> cases hb : i.testBit qp.1 <;> simp [signOf, bitsOf, hb]).symm

theorem expectFromProbs_tabulate (n : Nat) (w : PWord) (φ : State Cyc) :
    expectFromProbs n (tabulate n φ) w = ∑ i ∈ Finset.range (2 ^ n), paritySign (R := Cyc) w (bitsOf i) * wt (φ (bitsOf i)) := by
  rw [expectFromProbs_is_parity_sum, sampleList, List.map_map, size_tabulate, sum_map_range]
  refine Finset.sum_congr rfl fun i hi => ?_
  rw [Function.comp, getD_tabulate n φ (Finset.mem_range.mp hi)]
  -- the sign of the parity is the parity sign; `Cyc.normSq z = z * conj z`, `wt z = star z * z`
  exact congrArg₂ (· * ·) (parity_fold_sign w i false 1 (by simp [signOf])) (mul_comm _ _)

/-- **the frequency route of the model driver is ⟨ψ|P|ψ⟩ as well**: rotate with the gates of the regenerated
    measurement-basis table, apply the parity rule to the exact outcome frequencies -/
theorem freqRoute_is_specified (n : Nat) (w : PWord) (hnd : (w.map (·.1)).Nodup) (hlt : ∀ qp ∈ w, qp.1 < n) (ψ : State Cyc) :
    expectWordFreqRoute n (tabulate n ψ) w = inner n ψ (wordOps (pauliMat cycConsts) w ψ) := by
  have hreg : ∀ o ∈ measBasisOps w, ∀ q ∈ o.qubits, q < n := by
    rw [measBasisOps_eq]
    intro o ho
    obtain ⟨⟨q', p⟩, hqp, hop⟩ := List.mem_filterMap.mp ho
    cases p <;> cases hop <;> simpa [Op.qubits] using hlt _ hqp
  rw [expectWordFreqRoute, simOps_tabulate n _ hreg ψ, semOps_measBasis, expectFromProbs_tabulate]
  exact freq_route_eq_overlap_exec n w hnd hlt ψ

theorem routes_agree_on_driver (n : Nat) (w : PWord) (hnd : (w.map (·.1)).Nodup) (hlt : ∀ qp ∈ w, qp.1 < n) (ψ : State Cyc) :
    expectWordFreqRoute n (tabulate n ψ) w = expectWord n (tabulate n ψ) w := by
  rw [freqRoute_is_specified n w hnd hlt ψ, expectWord_is_specified n w hlt ψ]

end Tangelo.C02
