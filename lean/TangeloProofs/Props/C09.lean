import TangeloProofs.Lemmas.OpInverse
import TangeloProofs.CycEval
import TangeloProofs.Lemmas.Commute
import TangeloProofs.Lemmas.CircuitInv
import TangeloModel.Clifford
import Mathlib.Data.List.Pairwise
/-!
# C09 — circuit transformations preserve the implemented operation

`Gate.toOp` gives the documented operation of a gate, `semOps` the action of an operation list on a state
(`Bits → R`: no width in the type, so a statement about every `ψ` holds on every state of every register size), over
any commutative ring whose constants satisfy `Consts.Laws` (ℂ with e θ = exp(iθ/2); `Cyc` for the driver: the `_exec`
corollaries).
-/
namespace Tangelo.C09
open Tangelo
variable {R : Type} [CommRing R]

/-! ## `Gate.inverse` denotes `Op.inv`, so `Circuit.inverse` undoes the circuit -/

theorem gate_inverse_toOp (g g' : Gate) (o : Op) (h1 : g.toOp = some o) (h2 : g.inverse = some g') :
    g'.toOp = some o.inv := by
  obtain ⟨nm, tgt, ctl, p, v⟩ := g
  obtain ⟨sh, hs, h1⟩ := Gate.toOp_eq_some.mp h1
  rcases Gate.inverse_eq_some h2 with ⟨rfl, rfl⟩ | ⟨rfl, rfl⟩ | ⟨hT, hS, p', rfl, hp⟩
  -- T and S come back under the name PHASE
  iterate 2
    cases hs
    obtain ⟨h⟩ := h1
    obtain ⟨θ, rfl, -⟩ := Gate.baseOp_eq_some h
    rfl
  -- every other gate keeps name and qubits, so its shape, and only the angle changes sign
  · refine Gate.toOp_eq_some.mpr ⟨sh, hs, ?_⟩
    obtain ⟨hS', hT', hCS, hCT⟩ := Gate.shapeOf_ST hs
    cases h1 with
    | one1 h => exact .one1 (Gate.baseOp_inv (fun e => hS (hS'.mpr (e ▸ rfl))) (fun e => hT (hT'.mpr (e ▸ rfl))) hp h)
    | oneC h => exact .oneC (Gate.baseOp_inv (fun e => hCS (e ▸ rfl)) (fun e => hCT (e ▸ rfl)) hp h)
    | swap => exact .swap
    | cswap => exact .cswap
    | xx =>
      obtain ⟨h, -⟩ | ⟨a, h, rfl⟩ := hp
      · cases h
      · cases h; exact .xx

/-- every supported gate name is declared invertible by the code's table (regenerated from /repo) -/
theorem supported_invertible (nm : String) (sh : Gate.Shape) (h : Gate.shapeOf nm = some sh) :
    Tables.invertibleGates.contains nm = true := by
  unfold Gate.shapeOf at h
  split at h <;> first | decide | cases h

theorem gate_inverse_sem (k : Consts R) (L : k.Laws) (g g' : Gate) (o : Op)
    (h1 : g.toOp = some o) (h2 : g.inverse = some g') (hwf : o.qubits.Nodup) (ψ : State R) :
    ∃ o', g'.toOp = some o' ∧ o'.sem k (o.sem k ψ) = ψ :=
  ⟨o.inv, gate_inverse_toOp g g' o h1 h2, Op.inv_sem k L o hwf ψ⟩

theorem inverseGates_toOps (gs gs' : List Gate) (ops : List Op)
    (h1 : gatesToOps gs = some ops) (h2 : Circuit.inverseGates gs = .ok gs') :
    gatesToOps gs' = some (ops.map Op.inv) := by
  induction gs generalizing gs' ops with
  | nil => cases h1; cases h2; rfl
  | cons g gs ih =>
    simp only [gatesToOps_cons, Option.bind_eq_some_iff, Option.map_eq_some_iff] at h1
    obtain ⟨o, ho, os, hos, rfl⟩ := h1
    obtain ⟨gi, rest, hg, hr, rfl⟩ := Circuit.inverseGates_cons_eq_ok.mp h2
    simp [gate_inverse_toOp g gi o ho hg, ih rest os hos hr]

theorem toOp_qubits (g : Gate) (o : Op) (h : g.toOp = some o) : o.qubits = g.qubits := Gate.toOp_qubits h

theorem gatesToOps_iff_map (gs : List Gate) (os : List Op) : gatesToOps gs = some os ↔ gs.map Gate.toOp = os.map some :=
  gatesToOps_eq_some_iff

theorem gatesToOps_append (xs ys : List Gate) (ox oy : List Op) (hx : gatesToOps xs = some ox) (hy : gatesToOps ys = some oy) :
    gatesToOps (xs ++ ys) = some (ox ++ oy) := Tangelo.gatesToOps_append hx hy

theorem gatesToOps_reverse (xs : List Gate) (ox : List Op) (hx : gatesToOps xs = some ox) :
    gatesToOps xs.reverse = some ox.reverse := Tangelo.gatesToOps_reverse hx

/-- **`Circuit.inverse` undoes the circuit**, for every circuit over the supported set whose gates have distinct
    qubits -/
theorem circuit_inverse_sem (k : Consts R) (L : k.Laws) (c ci : Circuit) (ops : List Op)
    (h1 : gatesToOps c.gates = some ops) (h2 : c.inverse = .ok ci) (hwf : ∀ o ∈ ops, o.qubits.Nodup) (ψ : State R) :
    ∃ ops', gatesToOps ci.gates = some ops' ∧ semOps k ops' (semOps k ops ψ) = ψ := by
  obtain ⟨gs', hr, h2⟩ := bind_eq_ok.mp h2
  refine ⟨invOps ops, ?_, invOps_sem k L ops hwf ψ⟩
  rw [Circuit.gates_ofGates h2, invOps, ← List.map_reverse]
  exact inverseGates_toOps _ gs' _ (Tangelo.gatesToOps_reverse h1) hr

theorem circuit_inverse_sem_exec (c ci : Circuit) (ops : List Op)
    (h1 : gatesToOps c.gates = some ops) (h2 : c.inverse = .ok ci) (hwf : ∀ o ∈ ops, o.qubits.Nodup) (ψ : State Cyc) :
    ∃ ops', gatesToOps ci.gates = some ops' ∧ semOps cycConsts ops' (semOps cycConsts ops ψ) = ψ :=
  circuit_inverse_sem cycConsts cycConsts_laws c ci ops h1 h2 hwf ψ

-- the hypotheses can be met: an operation on distinct qubits, a gate that has an operation
example : (Op.one .RX (Ang.piQuarter 1) 0 [1, 2]).qubits.Nodup := by decide
example : Gate.toOp ⟨"CRZ", [1], some [0, 2], .ang (Ang.piQuarter 3), false⟩ = some (Op.one .RZ (Ang.piQuarter 3) 1 [0, 2]) := by rfl

/-! ## The rewrites of the passes are sound: on adjacent gates, then across gates on other qubits -/

/-- what `merge_rotations` writes, on adjacent gates -/
theorem merge_pair_sound (k : Consts R) (L : k.Laws) (b : Base) (hb : b = .RX ∨ b = .RY ∨ b = .RZ ∨ b = .PHASE)
    (a a' : Ang) (t : Nat) (cs : List Nat) (ht : t ∉ cs) (ψ : State R) :
    (Op.one b a' t cs).sem k ((Op.one b a t cs).sem k ψ) = (Op.one b (a + a') t cs).sem k ψ := by
  simp only [Op.sem]
  rw [ctl_app1_app1 cs _ _ t ht, baseMatrix_add k L (Base.parametrized_iff.mpr hb)]

theorem merge_pair_sound_exec (b : Base) (hb : b = .RX ∨ b = .RY ∨ b = .RZ ∨ b = .PHASE)
    (a a' : Ang) (t : Nat) (cs : List Nat) (ht : t ∉ cs) (ψ : State Cyc) :
    (Op.one b a' t cs).sem cycConsts ((Op.one b a t cs).sem cycConsts ψ) = (Op.one b (a + a') t cs).sem cycConsts ψ :=
  merge_pair_sound cycConsts cycConsts_laws b hb a a' t cs ht ψ

/-- the pair that `remove_redundant_gates` deletes -/
theorem cancel_pair_sound (k : Consts R) (L : k.Laws) (o : Op) (hwf : o.qubits.Nodup) (ψ : State R) :
    o.inv.sem k (o.sem k ψ) = ψ := Op.inv_sem k L o hwf ψ

/-- the exact core of `remove_small_rotations` -/
theorem zero_rotation_id (k : Consts R) (L : k.Laws) (b : Base) (hb : b = .RX ∨ b = .RY ∨ b = .RZ)
    (t : Nat) (cs : List Nat) (ψ : State R) : (Op.one b 0 t cs).sem k ψ = ψ := by
  simp only [Op.sem]
  rw [baseMatrix_zero k L (Base.parametrized_iff.mpr (hb.imp_right (Or.imp_right Or.inl))), ctl_app1_one]

theorem e_two_pi (k : Consts R) (L : k.Laws) : k.e (Ang.piQuarter 8) = -1 := L.e_two_pi

theorem e_neg_two_pi (k : Consts R) (L : k.Laws) : k.e (-Ang.piQuarter 8) = -1 := by
  have h1 := L.e_neg_mul (Ang.piQuarter 8)
  rw [e_two_pi k L] at h1
  linear_combination (-1 : R) * h1

/-- uncontrolled rotations are 2π-periodic up to the global phase −1 (why `==` may reduce modulo 2π) -/
theorem rotation_shift_two_pi (k : Consts R) (L : k.Laws) (b : Base) (hb : b = .RX ∨ b = .RY ∨ b = .RZ)
    (θ : Ang) (t : Nat) (ψ : State R) (x : Bits) :
    (Op.one b (θ + Ang.piQuarter 8) t []).sem k ψ x = -((Op.one b θ t []).sem k ψ x) := by
  -- the rotation by 2π is −1, and rotations compose
  have h8 : baseMatrix k b (Ang.piQuarter 8) = ⟨-1, 0, 0, -1⟩ := by
    have hc : k.cosH (Ang.piQuarter 8) = -1 := by
      unfold Consts.cosH; rw [e_two_pi k L, e_neg_two_pi k L]; linear_combination (-1 : R) * L.two_half
    have hm : k.misinH (Ang.piQuarter 8) = 0 := by
      unfold Consts.misinH; rw [e_two_pi k L, e_neg_two_pi k L]; ring
    rcases hb with rfl | rfl | rfl <;> simp [baseMatrix, Consts.sinH, hc, hm, e_two_pi k L, e_neg_two_pi k L]
  rw [Op.sem_one_nil, Op.sem_one_nil, ← baseMatrix_add k L (Base.parametrized_iff.mpr (hb.imp_right (Or.imp_right Or.inl))), ← app1_app1, h8,
    app1_diag_apply _ t _ x rfl rfl, ite_self]
  exact neg_one_mul _

/-- the matrix of every gate is exactly 4π-periodic in its angle: the period `==` must use for CRX/CRY/CRZ, where the
    −1 of a shift by 2π sits under the controls and is no global phase -/
theorem rotation_shift_four_pi (k : Consts R) (L : k.Laws) (b : Base) (θ : Ang) (t : Nat) (cs : List Nat) :
    baseMatrix k b (θ + Ang.piQuarter 16) = baseMatrix k b θ :=
  L.baseMatrix_add_four_pi b θ

theorem disjoint_ops_commute (k : Consts R) (o o' : Op) (hd : ∀ q ∈ o.qubits, q ∉ o'.qubits) (ψ : State R) :
    o.sem k (o'.sem k ψ) = o'.sem k (o.sem k ψ) := Op.comm_disjoint k o o' hd ψ

theorem move_across (k : Consts R) (o : Op) (mid : List Op) (hd : ∀ o' ∈ mid, ∀ q ∈ o.qubits, q ∉ o'.qubits) (ψ : State R) :
    o.sem k (semOps k mid ψ) = semOps k mid (o.sem k ψ) :=
  semOps_comm_disjoint k o mid hd ψ

/-- the rewrite of `merge_rotations` at a distance, stated on its own: the pass is proved from `merge_pair_sound` by
    `semOps_set_absorb` (`merge_branch_sound`), not through this theorem -/
theorem merge_at_distance_sound (k : Consts R) (L : k.Laws) (b : Base) (hb : b = .RX ∨ b = .RY ∨ b = .RZ ∨ b = .PHASE)
    (a a' : Ang) (t : Nat) (cs : List Nat) (ht : t ∉ cs) (pre mid : List Op)
    (hd : ∀ o' ∈ mid, ∀ q ∈ (Op.one b a' t cs).qubits, q ∉ o'.qubits) (ψ : State R) :
    semOps k (pre ++ [Op.one b a t cs] ++ mid ++ [Op.one b a' t cs]) ψ
      = semOps k (pre ++ [Op.one b (a + a') t cs] ++ mid) ψ := by
  simp only [semOps_append, semOps_cons, semOps_nil]
  rw [move_across k _ mid hd, merge_pair_sound k L b hb a a' t cs ht]

/-- the rewrite `remove_redundant_gates` performs: cancelling at a distance -/
theorem cancel_at_distance_sound (k : Consts R) (L : k.Laws) (o : Op) (hwf : o.qubits.Nodup) (pre mid : List Op)
    (hd : ∀ o' ∈ mid, ∀ q ∈ o.inv.qubits, q ∉ o'.qubits) (ψ : State R) :
    semOps k (pre ++ [o] ++ mid ++ [o.inv]) ψ = semOps k (pre ++ mid) ψ := by
  simp only [semOps_append, semOps_cons, semOps_nil]
  rw [move_across k _ mid hd, Op.inv_sem k L o hwf]

/-! ## `+` composes, `copy` keeps the gate list; the Clifford table is correct row by row -/

/-- **`c + d`** applies the operation of `c`, then that of `d` -/
theorem add_sem (k : Consts R) (c d r : Circuit) (oc od : List Op) (h : c.add d = .ok r)
    (hc : gatesToOps c.gates = some oc) (hd : gatesToOps d.gates = some od) (ψ : State R) :
    ∃ or', gatesToOps r.gates = some or' ∧ semOps k or' ψ = semOps k od (semOps k oc ψ) :=
  ⟨oc ++ od, Circuit.gates_ofGates h ▸ Tangelo.gatesToOps_append hc hd, semOps_append k oc od ψ⟩

theorem copy_gates (c r : Circuit) (h : c.copy = .ok r) : r.gates = c.gates := Circuit.gates_ofGates h

/-- every row of the table regenerated from `decompose_gate_to_cliffords` equals the rotation it is listed for up to
    a 16th root of unity, computed exactly in ℚ(ζ₁₆) by the kernel -/
theorem clifford_table_correct : Clifford.allRowsOk = true := by
  unfold Clifford.allRowsOk Clifford.rowOk
  simp only [Clifford.product_eq_foldr, baseMatrixQ_eq, Clifford.m2smul, Cyc.zetaPowNat_mul]
  decide +kernel

/-! ## `remove_small_rotations`: deleting operations that are ± the identity changes a sign only -/

theorem Op.sem_smul (k : Consts R) (o : Op) (c : R) (ψ : State R) :
    o.sem k (fun x => c * ψ x) = fun x => c * o.sem k ψ x :=
  (o.actsOn k).smul c ψ

theorem semOps_smul (k : Consts R) (ops : List Op) (c : R) (ψ : State R) :
    semOps k ops (fun x => c * ψ x) = fun x => c * semOps k ops ψ x :=
  (foldl_comm_of_forall (fun (φ : State R) (o : Op) => o.sem k φ) (fun φ x => c * φ x) ops
    (fun o _ φ => (Op.sem_smul k o c φ).symm) ψ).symm

/-- equality up to one global sign -/
def SignEq (F G : State R → State R) : Prop := ∃ s : R, s * s = 1 ∧ ∀ (ψ : State R) (x : Bits), F ψ x = s * G ψ x

theorem SignEq.iff_funext {F G : State R → State R} :
    SignEq F G ↔ ∃ s : R, s * s = 1 ∧ ∀ ψ : State R, F ψ = fun x => s * G ψ x :=
  exists_congr fun _ => and_congr_right fun _ => forall_congr' fun _ => funext_iff.symm

theorem SignEq.of_eq {F G : State R → State R} (h : ∀ ψ, F ψ = G ψ) : SignEq F G :=
  ⟨1, mul_one 1, fun ψ x => by rw [h, one_mul]⟩

theorem SignEq.refl (F : State R → State R) : SignEq F F := .of_eq fun _ => rfl

theorem SignEq.symm {F G : State R → State R} : SignEq F G → SignEq G F
  | ⟨s, hs, h⟩ => ⟨s, hs, fun ψ x => by rw [h, ← mul_assoc, hs, one_mul]⟩

theorem SignEq.trans {F G H : State R → State R} : SignEq F G → SignEq G H → SignEq F H
  | ⟨s, hs, h⟩, ⟨t, ht, h'⟩ => ⟨s * t, by rw [mul_mul_mul_comm, hs, ht, mul_one], fun ψ x => by rw [h, h', mul_assoc]⟩

/-- operations are linear, so the signs of successive segments multiply -/
theorem SignEq.append (k : Consts R) {a a' b b' : List Op} :
    SignEq (semOps k a) (semOps k a') → SignEq (semOps k b) (semOps k b') →
      SignEq (semOps k (a ++ b)) (semOps k (a' ++ b'))
  | ⟨s, hs, h⟩, ⟨t, ht, h'⟩ => ⟨t * s, by rw [mul_mul_mul_comm, hs, ht, mul_one], fun ψ x => by
      rw [semOps_append, semOps_append, h', funext (h ψ), semOps_smul, mul_assoc]⟩

/-- the operation is ± the identity (what a rotation by a multiple of 2π is) -/
def IsSignId (k : Consts R) (o : Op) : Prop := ∃ s : R, s * s = 1 ∧ ∀ ψ : State R, o.sem k ψ = fun x => s * ψ x

/-- `List.filter` with the decisions taken beforehand (`filter_eq_mask`), so that the same decisions select from the
    gates and from their operations -/
def maskFilter {α : Type} : List Bool → List α → List α
  | b :: bs, a :: as => if b then a :: maskFilter bs as else maskFilter bs as
  | _, _ => []

theorem filter_eq_mask {α : Type} (p : α → Bool) (l : List α) : l.filter p = maskFilter (l.map p) l := by
  induction l with
  | nil => rfl
  | cons a as ih => simp only [List.filter_cons, List.map_cons, maskFilter, ih]

theorem maskFilter_map {α β : Type} (f : α → β) : ∀ (mask : List Bool) (l : List α),
    (maskFilter mask l).map f = maskFilter mask (l.map f)
  | [], [] | [], _ :: _ | _ :: _, [] => rfl
  | true :: bs, a :: as => congrArg (f a :: ·) (maskFilter_map f bs as)
  | false :: bs, _ :: as => maskFilter_map f bs as

theorem gatesToOps_mask (gs : List Gate) (ops : List Op) (mask : List Bool) (h : gatesToOps gs = some ops) :
    gatesToOps (maskFilter mask gs) = some (maskFilter mask ops) := by
  rw [gatesToOps_eq_some_iff] at *
  rw [maskFilter_map, maskFilter_map, h]

theorem mask_sound (k : Consts R) (ops : List Op) (mask : List Bool) (hlen : mask.length = ops.length)
    (hid : ∀ i : Nat, mask[i]? = some false → ∀ o, ops[i]? = some o → IsSignId k o) :
    ∃ s : R, s * s = 1 ∧ ∀ ψ : State R, semOps k (maskFilter mask ops) ψ = fun x => s * semOps k ops ψ x := by
  rw [← SignEq.iff_funext]
  induction ops generalizing mask with
  | nil => cases mask <;> exact .refl _
  | cons o os ih =>
    obtain _ | ⟨b, bs⟩ := mask
    · simp at hlen
    have h1 := ih bs (by simpa using hlen) (fun i hi o' ho' => hid (i + 1) (by simpa using hi) o' (by simpa using ho'))
    cases b
    · -- dropped: `o` alone is ± the identity
      exact SignEq.append k (a := []) (a' := [o]) (SignEq.symm (SignEq.iff_funext.mpr (hid 0 rfl o rfl))) h1
    · exact SignEq.append k (a := [o]) (a' := [o]) (.refl _) h1

/-- **`remove_small_rotations` as a whole pass**: if every rotation the pass drops denotes ± the identity
    (exact multiples of the period — the float threshold of the code is an input of the model), the resulting
    circuit implements the same operation up to one global sign -/
theorem removeSmall_sound (k : Consts R) (isSmall : Gate → Bool) (c c' : Circuit) (rq : Bool) (ops : List Op)
    (h1 : gatesToOps c.gates = some ops) (h2 : c.removeSmallWith isSmall rq = .ok c')
    (hid : ∀ (i : Nat) g o, c.gates[i]? = some g → ops[i]? = some o →
      (Circuit.rotSmallSet.contains g.name && isSmall g) = true → IsSignId k o) :
    ∃ ops' s, gatesToOps c'.gates = some ops' ∧ s * s = 1 ∧ ∀ ψ : State R, semOps k ops' ψ = fun x => s * semOps k ops ψ x := by
  obtain ⟨n, h2⟩ := Circuit.removeSmallWith_ok h2
  rw [Circuit.gates_ofGates h2, filter_eq_mask]
  refine ⟨_, (mask_sound k ops _ (by simp [gatesToOps_length h1]) fun i hi o ho => ?_).imp fun s h =>
    ⟨gatesToOps_mask _ _ _ h1, h⟩⟩
  simp only [List.getElem?_map, Option.map_eq_some_iff, Bool.not_eq_false'] at hi
  obtain ⟨g, hg, hp⟩ := hi
  exact hid i g o hg ho hp

theorem zero_rotation_signId (k : Consts R) (L : k.Laws) (b : Base) (hb : b = .RX ∨ b = .RY ∨ b = .RZ)
    (t : Nat) (cs : List Nat) : IsSignId k (Op.one b 0 t cs) :=
  ⟨1, mul_one 1, fun ψ => by simp only [zero_rotation_id k L b hb, one_mul]⟩

theorem two_pi_rotation_signId (k : Consts R) (L : k.Laws) (b : Base) (hb : b = .RX ∨ b = .RY ∨ b = .RZ) (t : Nat) :
    IsSignId k (Op.one b (Ang.piQuarter 8) t []) := by
  refine ⟨-1, by ring, fun ψ => funext fun x => ?_⟩
  rw [← Ang.zero_add' (Ang.piQuarter 8), rotation_shift_two_pi k L b hb, zero_rotation_id k L b hb, neg_one_mul]

/-! ## `merge_rotations`: the table of last gates is right after every iteration (`LastOK`) -/

open Circuit

theorem find_map_pair (qs : List Nat) (pos q : Nat) :
    ((qs.map (fun q' => (q', pos))).find? (·.1 == q)).map (·.2) = if q ∈ qs then some pos else none := by
  induction qs with
  | nil => rfl
  | cons a as ih =>
    by_cases h : a = q
    · simp [h]
    · simpa [h, Ne.symm h] using ih

theorem find_map_pair_none (qs : List Nat) (pos q : Nat) (h : q ∉ qs) :
    (qs.map (fun q' => (q', pos))).find? (·.1 == q) = none :=
  Option.map_eq_none_iff.mp ((find_map_pair qs pos q).trans (if_neg h))

theorem find_filter_notin (last : List (Nat × Nat)) (qs : List Nat) (q : Nat) (h : q ∉ qs) :
    (last.filter (fun p => !qs.contains p.1)).find? (·.1 == q) = last.find? (·.1 == q) := by
  rw [List.find?_filter]
  congr 1; funext p
  by_cases hp : p.1 = q <;> simp [hp, h]

theorem lastOf_record (st : MergeSt) (gate : Gate) (q : Nat) :
    (st.record gate).lastOf q = if q ∈ gate.qubits then some st.out.size else st.lastOf q := by
  simp only [MergeSt.lastOf, MergeSt.record, List.find?_append, Option.map_or, find_map_pair]
  split
  · rfl
  · rw [Option.none_or, find_filter_notin _ _ _ ‹_›]

theorem out_record (st : MergeSt) (gate : Gate) : (st.record gate).out.toList = st.out.toList ++ [gate] := by
  simp [MergeSt.record]

/-- the table is right: the recorded position holds a gate on that qubit and no later gate touches the qubit -/
def LastOK (st : MergeSt) : Prop :=
  ∀ q i, st.lastOf q = some i →
    (∃ g, st.out.toList[i]? = some g ∧ q ∈ g.qubits) ∧ ∀ j g, i < j → st.out.toList[j]? = some g → q ∉ g.qubits

theorem lastOK_init : LastOK { out := #[], last := [] } := by
  intro q i h; simp [MergeSt.lastOf] at h

theorem lastOK_record (st : MergeSt) (gate : Gate) (h : LastOK st) : LastOK (st.record gate) := by
  intro q i hq
  rw [lastOf_record] at hq
  simp only [out_record, getElem?_concat_eq_some]
  split at hq
  · cases hq
    refine ⟨⟨gate, .inr ⟨by simp, rfl⟩, ‹_›⟩, fun j g hj hg => ?_⟩
    rcases hg with hg | ⟨rfl, -⟩
    · have := (List.getElem?_eq_some_iff.mp hg).1
      simp at this; omega
    · simp at hj
  · obtain ⟨⟨g0, hg0, hq0⟩, hafter⟩ := h q i hq
    refine ⟨⟨g0, .inl hg0, hq0⟩, fun j g hj hg => ?_⟩
    rcases hg with hg | ⟨-, rfl⟩
    · exact hafter j g hj hg
    · assumption

theorem lastOK_set (st : MergeSt) (i0 : Nat) (g0 g0' : Gate) (h : LastOK st) (hg0 : st.out.toList[i0]? = some g0)
    (hq : g0'.qubits = g0.qubits) : LastOK { st with out := st.out.set! i0 g0' } := by
  -- `LastOK` reads the qubits of the gates only, and position by position these are the same in both lists
  have hm := map_set_of_eq Gate.qubits hg0 hq
  intro q i hi
  obtain ⟨⟨g, hg, hqg⟩, hafter⟩ := h q i hi
  simp only [Array.toList_set!]
  obtain ⟨g', hg', e⟩ := getElem?_of_map_eq_map hm.symm hg
  refine ⟨⟨g', hg', e ▸ hqg⟩, fun j gj hj hgj => ?_⟩
  obtain ⟨gj', hgj', e'⟩ := getElem?_of_map_eq_map hm hgj
  exact e' ▸ hafter j gj' hj hgj'

theorem lastOK_same_pos {st : MergeSt} (hst : LastOK st) {q q' i i' : Nat} {g g' : Gate}
    (hq : st.lastOf q = some i) (hq' : st.lastOf q' = some i')
    (hg : st.out.toList[i]? = some g) (hg' : st.out.toList[i']? = some g')
    (h : q' ∈ g.qubits) (h' : q ∈ g'.qubits) : i = i' := by
  rcases Nat.lt_trichotomy i i' with hlt | heq | hgt
  · exact absurd h' ((hst q i hq).2 i' g' hlt hg')
  · exact heq
  · exact absurd h ((hst q' i' hq').2 i g hgt hg)

theorem rot_pair_ops (g0 gate : Gate) (o0 o : Op) (h0 : g0.toOp = some o0) (h1 : gate.toOp = some o)
    (hn : rotMergeSet.contains gate.name = true) (hname : gate.name = g0.name) (ht : gate.target = g0.target)
    (hc : gate.control = g0.control) :
    ∃ b a a' t cs, (b = .RX ∨ b = .RY ∨ b = .RZ ∨ b = .PHASE) ∧ o0 = Op.one b a t cs ∧ o = Op.one b a' t cs ∧
      g0.param = .ang a ∧ gate.param = .ang a' ∧
      ∀ v, ({ g0 with isVar := v, param := .ang (a + a') } : Gate).toOp = some (Op.one b (a + a') t cs) := by
  obtain ⟨b, a, t, cs, hb, hpa, rfl⟩ := Gate.toOp_rotMerge (hname ▸ hn) h0
  obtain ⟨b', a', t', cs', -, hpa', rfl⟩ := Gate.toOp_rotMerge hn h1
  -- `gate` is `g0` read with the angle `a'`
  have e : ({ g0 with isVar := gate.isVar, param := .ang a' } : Gate) = gate := by
    cases gate; cases g0; simp_all
  have := Gate.toOp_one_param h0 a' gate.isVar
  rw [e, h1] at this
  cases this
  exact ⟨b, a, a', t, cs, Base.parametrized_iff.mp hb, rfl, rfl, hpa, hpa', fun v => Gate.toOp_one_param h0 _ v⟩

theorem record_sound (k : Consts R) (st : MergeSt) (gate : Gate) (o : Op) (os : List Op)
    (hst : LastOK st) (hos : gatesToOps st.out.toList = some os) (ho : gate.toOp = some o) :
    LastOK (st.record gate) ∧ ∃ os', gatesToOps (st.record gate).out.toList = some os' ∧
      ∀ ψ : State R, semOps k os' ψ = o.sem k (semOps k os ψ) := by
  refine ⟨lastOK_record st gate hst, os ++ [o], ?_, fun ψ => by rw [semOps_append]; rfl⟩
  rw [out_record]
  exact Tangelo.gatesToOps_append hos (by simp [ho])

theorem merge_branch_sound (k : Consts R) (L : k.Laws) (gs : List Gate) (os : List Op) (i0 : Nat) (g0 gate : Gate) (o : Op)
    (hos : gatesToOps gs = some os) (hg0 : gs[i0]? = some g0) (ho : gate.toOp = some o) (hnd : gate.qubits.Nodup)
    (hn : rotMergeSet.contains gate.name = true) (hname : gate.name = g0.name) (ht : gate.target = g0.target)
    (hc : gate.control = g0.control)
    (hfree : ∀ j g, i0 < j → gs[j]? = some g → ∀ q ∈ gate.qubits, q ∉ g.qubits)
    (p : Param) (hp : addParam g0.param gate.param = .ok p) (v : Bool) :
    ∃ os', gatesToOps (gs.set i0 { g0 with isVar := v, param := p }) = some os' ∧
      ∀ ψ : State R, semOps k os' ψ = o.sem k (semOps k os ψ) := by
  obtain ⟨o0, hoi, hto0⟩ := gatesToOps_op_at hos hg0
  obtain ⟨b, a, a', t, cs, hb, rfl, rfl, hpa, hpa', hnew⟩ := rot_pair_ops g0 gate o0 o hto0 ho hn hname ht hc
  rw [hpa, hpa'] at hp
  cases hp
  have htc : t ∉ cs := by
    rw [← Gate.toOp_qubits ho] at hnd
    exact (List.nodup_cons.mp hnd).1
  refine ⟨_, gatesToOps_set hos (hnew v) i0, semOps_set_absorb k hoi
    (fun φ => (merge_pair_sound k L b hb a a' t cs htc φ).symm) fun j o' hj ho' q hq => ?_⟩
  obtain ⟨g, hg, hgo⟩ := gatesToOps_gate_at hos ho'
  rw [Gate.toOp_qubits hgo]
  exact hfree j g hj hg q (Gate.toOp_qubits ho ▸ hq)

theorem qubits_of_fields (g h : Gate) (ht : g.target = h.target) (hc : g.control = h.control) : g.qubits = h.qubits := by
  simp [Gate.qubits, ht, hc]

/-- one iteration: either the gate is appended, or all its qubits have their last gate at one position `i0`, which
    absorbs it -/
theorem mergeStep_sound (k : Consts R) (L : k.Laws) (eqv : Gate → Gate → Bool)
    (heqv : ∀ a b, eqv a b = true → a.qubits = b.qubits)
    (w : Nat) (st st' : MergeSt) (gate : Gate) (o : Op) (os : List Op)
    (hst : LastOK st) (hos : gatesToOps st.out.toList = some os) (ho : gate.toOp = some o)
    (hnd : gate.qubits.Nodup) (h : mergeStep eqv w st gate = .ok st') :
    LastOK st' ∧ ∃ os', gatesToOps st'.out.toList = some os' ∧
      ∀ ψ : State R, semOps k os' ψ = o.sem k (semOps k os ψ) := by
  rcases mergeStep_cases h with rfl | ⟨g0, gtl, i0, itl, p, hnone, hpg, hpv, hall, hn, hname, ht, hc, hp, rfl⟩
  · exact record_sound k st gate o os hst hos ho
  have hqg : g0.qubits = gate.qubits := (qubits_of_fields gate g0 ht hc).symm
  -- `i0` is the last position of the first qubit of `gate`, and `g0` is the gate there
  obtain ⟨q0, qs', hq0, hl0, -⟩ := List.map_eq_cons_iff.mp hpv
  obtain ⟨⟨g1, hg0, -⟩, -⟩ := hst q0 i0 hl0
  obtain rfl : g0 = g1 := by
    rw [hpv, List.filterMap_cons_some (by simpa using hg0)] at hpg
    exact (List.cons.inj hpg).1.symm
  -- every qubit of `gate` has a last gate; that gate is `eqv` to `g0`, so acts on all qubits of `gate`, so is at `i0` too
  have hall' : ∀ q ∈ gate.qubits, st.lastOf q = some i0 := by
    intro q hq
    obtain ⟨i, hi⟩ : ∃ i, st.lastOf q = some i :=
      Option.ne_none_iff_exists'.mp (by simpa using List.any_eq_false.mp hnone _ (List.mem_map_of_mem hq))
    obtain ⟨⟨g, hg, -⟩, -⟩ := hst q i hi
    have hmem : g ∈ g0 :: gtl :=
      hpg ▸ List.mem_filterMap.mpr ⟨some i, List.mem_map.mpr ⟨q, hq, hi⟩, by simpa using hg⟩
    have hgq : g.qubits = gate.qubits := (heqv g g0 (hall g hmem)).trans hqg
    rw [hi, lastOK_same_pos hst hi hl0 hg hg0 (by simp [hgq, hq0]) (hqg ▸ hq)]
  obtain ⟨os', h1, h2⟩ := merge_branch_sound k L st.out.toList os i0 g0 gate o hos hg0 ho hnd hn hname ht hc
    (fun j g hj hg q hq => (hst q i0 (hall' q hq)).2 j g hj hg) p hp (g0.isVar || gate.isVar)
  exact ⟨lastOK_set st i0 g0 _ hst hg0 rfl, os', by simpa using h1, h2⟩

theorem mergeFold_sound (k : Consts R) (L : k.Laws) (eqv : Gate → Gate → Bool)
    (heqv : ∀ a b, eqv a b = true → a.qubits = b.qubits) (w : Nat) :
    ∀ (gs : List Gate) (ops : List Op) (st st' : MergeSt) (os : List Op),
      gatesToOps gs = some ops → (∀ g ∈ gs, g.qubits.Nodup) → LastOK st → gatesToOps st.out.toList = some os →
      gs.foldlM (mergeStep eqv w) st = .ok st' →
      ∃ os', gatesToOps st'.out.toList = some os' ∧ ∀ ψ : State R, semOps k os' ψ = semOps k ops (semOps k os ψ) := by
  intro gs ops st st' os h1 hnd hst hos h
  refine (foldlM_gates_inv (I := fun st done => LastOK st ∧ ∃ os', gatesToOps st.out.toList = some os' ∧
      ∀ ψ : State R, semOps k os' ψ = semOps k done (semOps k os ψ))
    (fun s s' g o done hg ho ⟨hs, os1, hos1, hsem1⟩ hstep => ?_) (done := []) h1 ⟨hst, os, hos, fun ψ => rfl⟩ h).2
  obtain ⟨hs', os', hos', hsem'⟩ := mergeStep_sound k L eqv heqv w s s' g o os1 hs hos1 ho (hnd g hg) hstep
  exact ⟨hs', os', hos', fun ψ => by rw [hsem', hsem1, semOps_append]; rfl⟩

/-- **`merge_rotations` as a whole pass**: for every circuit over the supported gate set (numeric parameters, gates with
    distinct qubits) the circuit the pass returns implements exactly the same operation - no phase, no threshold.
    `eqv` is the code's gate equality; all that is used of it is that equal gates act on the same qubits. -/
theorem mergeRotations_sound (k : Consts R) (L : k.Laws) (eqv : Gate → Gate → Bool)
    (heqv : ∀ a b, eqv a b = true → a.qubits = b.qubits) (c r : Circuit) (ops : List Op)
    (h1 : gatesToOps c.gates = some ops) (hnd : ∀ g ∈ c.gates, g.qubits.Nodup)
    (h2 : mergeRotationsWith eqv c = .ok r) :
    ∃ ops', gatesToOps r.gates = some ops' ∧ ∀ ψ : State R, semOps k ops' ψ = semOps k ops ψ := by
  obtain ⟨st, hf, h2⟩ := mergeRotationsWith_ok h2
  obtain ⟨os', hos', hsem⟩ := mergeFold_sound k L eqv heqv c.width c.gates ops _ st [] h1 hnd lastOK_init rfl hf
  exact ⟨os', by rw [Circuit.gates_ofGates h2]; exact hos', hsem⟩

/-- the code's `Gate.__eq__` (model `Gate.eqv`) satisfies `heqv` of `mergeRotations_sound` -/
theorem gate_eqv_qubits (a b : Gate) (h : Gate.eqv a b = true) : a.qubits = b.qubits := by
  simp only [Gate.eqv, Bool.and_eq_true, beq_iff_eq] at h
  exact qubits_of_fields a b h.1.1.1.2 h.1.1.2

theorem mergeRotations_sound_exec (c r : Circuit) (ops : List Op)
    (h1 : gatesToOps c.gates = some ops) (hnd : ∀ g ∈ c.gates, g.qubits.Nodup)
    (h2 : mergeRotationsWith Gate.eqv c = .ok r) :
    ∃ ops', gatesToOps r.gates = some ops' ∧ ∀ ψ : State Cyc, semOps cycConsts ops' ψ = semOps cycConsts ops ψ :=
  mergeRotations_sound cycConsts cycConsts_laws Gate.eqv gate_eqv_qubits c r ops h1 hnd h2

/-- two RZ on qubit 0 with an H on qubit 1 emitted in between are merged at a distance (3 gates → 2) -/
example : ∃ c r, Circuit.ofGates [⟨"RZ", [0], none, .ang (Ang.piQuarter 1), false⟩, ⟨"H", [1], none, .none, false⟩,
      ⟨"RZ", [0], none, .ang (Ang.piQuarter 2), false⟩] none = .ok c ∧
    Circuit.mergeRotationsWith (fun a b => a == b) c = .ok r ∧ r.gates.length = 2 := by
  refine ⟨_, _, rfl, rfl, by decide⟩

/-! ## `remove_redundant_gates`: a gate cancels the inverse on top of its stacks at a distance -/

theorem rrStackOf_map_key (f : Nat × List Nat → Nat × List Nat) (hf : ∀ p, (f p).1 = p.1) (l : List (Nat × List Nat))
    (q : Nat) : rrStackOf (l.map f) q = match l.find? (·.1 == q) with
      | some p => (f (q, p.2)).2
      | none => [] := by
  have : ((·.1 == q) ∘ f : Nat × List Nat → Bool) = (·.1 == q) := by funext p; simp [hf]
  rw [rrStackOf, List.find?_map, this]
  cases h : l.find? (·.1 == q) with
  | none => rfl
  | some p =>
    obtain rfl : p.1 = q := by simpa using List.find?_some h
    rfl

theorem rrStackOf_map (F : Nat → List Nat → List Nat) (l : List (Nat × List Nat)) (q' : Nat) :
    rrStackOf (l.map (fun p => (p.1, F p.1 p.2))) q' =
      match l.find? (·.1 == q') with
      | some p => F q' p.2
      | none => [] :=
  rrStackOf_map_key (fun p => (p.1, F p.1 p.2)) (fun _ => rfl) l q'

theorem rrStackOf_push (gi : Nat) (stk : List (Nat × List Nat)) (q q' : Nat) :
    rrStackOf (rrPush gi stk q) q' = if q' = q then gi :: rrStackOf stk q else rrStackOf stk q' := by
  rw [rrPush, ← List.isSome_find?]
  cases h : stk.find? (·.1 == q) with
  | none =>
    rcases eq_or_ne q' q with rfl | e
    · simp [rrStackOf, h]
    · simp [rrStackOf, e, e.symm]
  | some p =>
    rw [Option.isSome_some, if_pos rfl, rrStackOf_map_key _ (fun ⟨a, s⟩ => by simp only; split <;> rfl), rrStackOf,
      rrStackOf]
    rcases eq_or_ne q' q with rfl | e
    · simp [h]
    · cases stk.find? (·.1 == q') <;> simp [e]

theorem rrStackOf_foldl_push (gi : Nat) (qs : List Nat) (hnd : qs.Nodup) (stk : List (Nat × List Nat)) (q' : Nat) :
    rrStackOf (qs.foldl (rrPush gi) stk) q' = if q' ∈ qs then gi :: rrStackOf stk q' else rrStackOf stk q' := by
  induction qs generalizing stk with
  | nil => simp
  | cons q rest ih =>
    obtain ⟨hq, hrest⟩ := List.nodup_cons.mp hnd
    rw [List.foldl_cons, ih hrest, rrStackOf_push]
    rcases eq_or_ne q' q with rfl | h1
    · simp [hq]
    · simp [h1]

theorem rrStackOf_pop (qs : List Nat) (stk : List (Nat × List Nat)) (q' : Nat) :
    rrStackOf (stk.map (fun (q, s) => if qs.contains q then (q, s.drop 1) else (q, s))) q' =
      if q' ∈ qs then (rrStackOf stk q').drop 1 else rrStackOf stk q' := by
  rw [rrStackOf_map_key _ (fun ⟨a, s⟩ => by simp only; split <;> rfl), rrStackOf]
  cases stk.find? (·.1 == q') with
  | none => simp
  | some p => by_cases hq : q' ∈ qs <;> simp [hq]

/-- the entries whose position, counted from `s`, passes the test: the `zipIdx`/`filter` of the model
    (`zipIdx_filter_eq_keepIdx`) -/
def keepIdx {α : Type} (p : Nat → Bool) : List α → Nat → List α
  | [], _ => []
  | x :: xs, s => if p s then x :: keepIdx p xs (s + 1) else keepIdx p xs (s + 1)

theorem zipIdx_filter_eq_keepIdx {α : Type} (p : Nat → Bool) (xs : List α) (s : Nat) :
    ((xs.zipIdx s).filter (fun (_, i) => p i)).map (·.1) = keepIdx p xs s := by
  induction xs generalizing s with
  | nil => rfl
  | cons x xs ih =>
    simp only [List.zipIdx_cons, List.filter_cons, keepIdx]
    split <;> simp [ih]

theorem keepIdx_append {α : Type} (p : Nat → Bool) (a b : List α) (s : Nat) :
    keepIdx p (a ++ b) s = keepIdx p a s ++ keepIdx p b (s + a.length) := by
  simp only [← zipIdx_filter_eq_keepIdx, List.zipIdx_append, List.filter_append, List.map_append]

theorem keepIdx_congr {α : Type} (p p' : Nat → Bool) (xs : List α) (s : Nat)
    (h : ∀ i, s ≤ i → i < s + xs.length → p i = p' i) : keepIdx p xs s = keepIdx p' xs s := by
  simp only [← zipIdx_filter_eq_keepIdx]
  exact congrArg _ (List.filter_congr fun ⟨x, i⟩ hx => let ⟨h1, h2, _⟩ := List.mem_zipIdx hx; h i h1 h2)

theorem mem_keepIdx {α : Type} (p : Nat → Bool) (xs : List α) (s : Nat) (x : α) (h : x ∈ keepIdx p xs s) :
    ∃ i, s ≤ i ∧ xs[i - s]? = some x ∧ p i = true := by
  rw [← zipIdx_filter_eq_keepIdx] at h
  obtain ⟨⟨y, i⟩, hy, rfl⟩ := List.mem_map.mp h
  obtain ⟨hm, hp⟩ := List.mem_filter.mp hy
  obtain ⟨h1, h2, e⟩ := List.mem_zipIdx hm
  exact ⟨i, h1, e ▸ List.getElem?_eq_getElem _, hp⟩

theorem keepIdx_map {α β : Type} (f : α → β) (p : Nat → Bool) (xs : List α) (s : Nat) :
    (keepIdx p xs s).map f = keepIdx p (xs.map f) s := by
  simp only [← zipIdx_filter_eq_keepIdx, List.zipIdx_map, List.filter_map, List.map_map]
  rfl

theorem gatesToOps_keepIdx (p : Nat → Bool) (gs : List Gate) (os : List Op) (s : Nat) (h : gatesToOps gs = some os) :
    gatesToOps (keepIdx p gs s) = some (keepIdx p os s) := by
  rw [gatesToOps_eq_some_iff] at *
  rw [keepIdx_map, keepIdx_map, h]

theorem take_succ_of_getElem? {α : Type} (l : List α) (n : Nat) (a : α) (h : l[n]? = some a) :
    l.take (n + 1) = l.take n ++ [a] := by
  rw [List.take_add_one, h]; rfl

theorem length_take_of_getElem? {α : Type} (l : List α) (n : Nat) (a : α) (h : l[n]? = some a) :
    (l.take n).length = n :=
  List.length_take_of_le (List.getElem?_eq_some_iff.mp h).1.le

theorem keepIdx_take_succ {α : Type} (p : Nat → Bool) {l : List α} {n : Nat} {a : α} (h : l[n]? = some a) :
    keepIdx p (l.take (n + 1)) 0 = keepIdx p (l.take n) 0 ++ if p n then [a] else [] := by
  rw [take_succ_of_getElem? l n a h, keepIdx_append, length_take_of_getElem? l n a h, Nat.zero_add]
  rfl

theorem set_eq_take_cons_drop {α : Type} (l : List α) (i : Nat) (a : α) (h : i < l.length) :
    l.set i a = l.take i ++ a :: l.drop (i + 1) := by
  rw [List.set_eq_take_append_cons_drop, if_pos h]

theorem eq_take_cons_drop {α : Type} (l : List α) (i : Nat) (a : α) (h : l[i]? = some a) :
    l = l.take i ++ a :: l.drop (i + 1) := by
  obtain ⟨hi, rfl⟩ := List.getElem?_eq_some_iff.mp h
  rw [← List.drop_eq_getElem_cons hi, List.take_append_drop]

/-- un-keeping one kept position `j` takes its entry out of the kept list and nothing else -/
theorem keepIdx_remove {α : Type} (p p' : Nat → Bool) (xs : List α) (j : Nat) (a : α) (hj : xs[j]? = some a)
    (hpj : p j = true) (hp'j : p' j = false) (hpp : ∀ i, i < xs.length → i ≠ j → p' i = p i) :
    ∃ A B, keepIdx p xs 0 = A ++ a :: B ∧ keepIdx p' xs 0 = A ++ B ∧
      ∀ x ∈ B, ∃ i, j < i ∧ xs[i]? = some x ∧ p i = true := by
  obtain ⟨A, B, rfl, rfl⟩ : ∃ A B, xs = A ++ a :: B ∧ A.length = j :=
    ⟨_, _, eq_take_cons_drop xs j a hj, length_take_of_getElem? xs j a hj⟩
  refine ⟨keepIdx p A 0, keepIdx p B (A.length + 1), ?_, ?_, fun x hx => ?_⟩
  · rw [keepIdx_append, keepIdx, Nat.zero_add, if_pos hpj]
  · rw [keepIdx_append, keepIdx, Nat.zero_add, hp'j, if_neg Bool.false_ne_true,
      keepIdx_congr p' p A 0 fun i _ h => hpp i (by simp; omega) (by omega),
      keepIdx_congr p' p B _ fun i h1 h => hpp i (by simp; omega) (by omega)]
  · obtain ⟨i, hi, hxi, hpi⟩ := mem_keepIdx _ _ _ _ hx
    refine ⟨i, hi, ?_, hpi⟩
    rw [List.getElem?_append_right (by omega), show i - A.length = i - (A.length + 1) + 1 by omega]
    exact hxi

theorem rrCheck_true (eqv : Gate → Gate → Bool) (gates : List Gate) (stk : List (Nat × List Nat)) (gate : Gate)
    (qs : List Nat) (h : rrCheck eqv gates stk gate qs = .ok true) :
    ∀ q ∈ qs, ∃ j gp gpi, rrTop stk q = some j ∧ gates[j]? = some gp ∧ gp.inverse = some gpi ∧ eqv gpi gate = true := by
  fun_induction rrCheck eqv gates stk gate qs with
  | case1 => simp
  | case5 q rest j ht gp hg gpi hi he ih => exact List.forall_mem_cons.mpr ⟨⟨j, gp, gpi, ht, hg, hi, he⟩, ih h⟩
  | _ => cases h

/-- the bookkeeping invariant after `n` gates: nothing at or after `n` is marked; the stack of a qubit lists, most
    recent first, exactly the unmarked positions below `n` whose gate touches the qubit -/
structure RRInv (gs : List Gate) (n : Nat) (st : RRSt) : Prop where
  rem_lt : ∀ i ∈ st.2, i < n
  sorted : ∀ q, (rrStackOf st.1 q).Pairwise (· > ·)
  mem : ∀ q i, i ∈ rrStackOf st.1 q ↔ (i < n ∧ i ∉ st.2 ∧ ∃ g, gs[i]? = some g ∧ q ∈ g.qubits)

theorem rrInv_init (gs : List Gate) : RRInv gs 0 ([], []) := by
  constructor <;> simp [rrStackOf]

theorem rrInv_push (gs : List Gate) (n : Nat) (st : RRSt) (gate : Gate) (hinv : RRInv gs n st)
    (hg : gs[n]? = some gate) (hnd : gate.qubits.Nodup) :
    RRInv gs (n + 1) (gate.qubits.foldl (rrPush n) st.1, st.2) := by
  refine ⟨fun i hi => Nat.lt_succ_of_lt (hinv.rem_lt i hi), fun q => ?_, fun q i => ?_⟩ <;>
    simp only [rrStackOf_foldl_push n _ hnd]
  · split
    · exact List.pairwise_cons.mpr ⟨fun i hi => ((hinv.mem q i).mp hi).1, hinv.sorted q⟩
    · exact hinv.sorted q
  · by_cases hi : i = n
    · -- position `n` is new: in no stack yet, not marked, and its gate is `gate`
      subst hi
      have h1 : i ∉ rrStackOf st.1 q := fun h => Nat.lt_irrefl _ ((hinv.mem q i).mp h).1
      have h2 : i ∉ st.2 := fun h => Nat.lt_irrefl _ (hinv.rem_lt i h)
      by_cases hq : q ∈ gate.qubits <;> simp [hq, h1, h2, hg]
    · rw [show i < n + 1 ↔ i < n by omega, ← hinv.mem q i]
      by_cases hq : q ∈ gate.qubits <;> simp [hq, hi]

theorem stack_of_top (stk : List (Nat × List Nat)) (q j : Nat) (h : rrTop stk q = some j) :
    ∃ tl, rrStackOf stk q = j :: tl :=
  List.head?_eq_some_iff.mp h

theorem head_ge_of_sorted (l : List Nat) (j : Nat) (tl : List Nat) (hl : l = j :: tl) (hs : l.Pairwise (· > ·))
    (i : Nat) (hi : i ∈ l) : i ≤ j := by
  subst hl
  exact (List.mem_cons.mp hi).elim Nat.le_of_eq fun e => Nat.le_of_lt (List.rel_of_pairwise_cons hs e)

theorem RRInv.top_mem {gs : List Gate} {n : Nat} {st : RRSt} (hinv : RRInv gs n st) {q j : Nat} (h : rrTop st.1 q = some j) :
    j < n ∧ j ∉ st.2 ∧ ∃ g, gs[j]? = some g ∧ q ∈ g.qubits := by
  obtain ⟨tl, e⟩ := stack_of_top _ _ _ h
  exact (hinv.mem q j).mp (e ▸ List.mem_cons_self)

theorem RRInv.le_top {gs : List Gate} {n : Nat} {st : RRSt} (hinv : RRInv gs n st) {q j i : Nat} {g : Gate}
    (h : rrTop st.1 q = some j) (hi : i < n) (hr : i ∉ st.2) (hg : gs[i]? = some g) (hq : q ∈ g.qubits) : i ≤ j := by
  obtain ⟨tl, e⟩ := stack_of_top _ _ _ h
  exact head_ge_of_sorted _ j tl e (hinv.sorted q) i ((hinv.mem q i).mpr ⟨hi, hr, g, hg, hq⟩)

theorem RRInv.top_eq {gs : List Gate} {n : Nat} {st : RRSt} (hinv : RRInv gs n st) {q q' j j' : Nat} {g g' : Gate}
    (hj : rrTop st.1 q = some j) (hj' : rrTop st.1 q' = some j') (hg : gs[j]? = some g) (hg' : gs[j']? = some g')
    (h : q' ∈ g.qubits) (h' : q ∈ g'.qubits) : j = j' :=
  have ⟨h1, h2, _⟩ := hinv.top_mem hj
  have ⟨h1', h2', _⟩ := hinv.top_mem hj'
  Nat.le_antisymm (hinv.le_top hj' h1 h2 hg h) (hinv.le_top hj h1' h2' hg' h')

theorem rrInv_remove (gs : List Gate) (n : Nat) (st : RRSt) (gate gp : Gate) (j0 : Nat) (hinv : RRInv gs n st)
    (hg : gs[n]? = some gate) (htop : ∀ q ∈ gate.qubits, rrTop st.1 q = some j0)
    (hgp : gs[j0]? = some gp) (hqub : gp.qubits = gate.qubits) (hj0 : j0 < n) :
    RRInv gs (n + 1)
      (st.1.map (fun (q, s) => if gate.qubits.contains q then (q, s.drop 1) else (q, s)), n :: j0 :: st.2) := by
  -- every stack loses `j0` and nothing else: where the gate acts `j0` is the top, elsewhere it does not occur
  have key : ∀ q, (if q ∈ gate.qubits then (rrStackOf st.1 q).drop 1 else rrStackOf st.1 q) =
      (rrStackOf st.1 q).erase j0 := by
    intro q
    split
    next hq =>
      obtain ⟨tl, htl⟩ := stack_of_top st.1 q j0 (htop q hq)
      rw [htl, List.erase_cons_head, List.drop_one, List.tail_cons]
    next hq =>
      refine (List.erase_of_not_mem fun h => hq ?_).symm
      obtain ⟨-, -, g, hg', hqg⟩ := (hinv.mem q j0).mp h
      exact hqub ▸ Option.some.inj (hg'.symm.trans hgp) ▸ hqg
  refine ⟨?_, fun q => ?_, fun q i => ?_⟩
  · simpa using ⟨Nat.lt_succ_of_lt hj0, fun i hi => Nat.lt_succ_of_lt (hinv.rem_lt i hi)⟩
  · rw [rrStackOf_pop, key]
    exact (hinv.sorted q).erase j0
  · rw [rrStackOf_pop, key, (hinv.sorted q).nodup.mem_erase_iff, hinv.mem q i]
    simp only [List.mem_cons, not_or]
    constructor
    · rintro ⟨h4, h1, h2, h3⟩; exact ⟨by omega, ⟨by omega, h4, h2⟩, h3⟩
    · rintro ⟨h1, ⟨h2, h3, h4⟩, h5⟩; exact ⟨h3, by omega, h4, h5⟩

theorem Op.inv_qubits (o : Op) : o.inv.qubits = o.qubits := by
  cases o with
  | one b θ t cs => cases b <;> rfl
  | swap a b cs => rfl
  | xx θ a b => rfl

/-- the test by which the pass builds its result -/
def keepP (removed : List Nat) : Nat → Bool := fun i => !removed.contains i

/-- semantic invariant after `n` gates: the kept gates implement the processed prefix up to one sign -/
def SemInv (k : Consts R) (ops : List Op) (n : Nat) (removed : List Nat) : Prop :=
  ∃ s : R, s * s = 1 ∧ ∀ (ψ : State R) (x : Bits),
    semOps k (keepIdx (keepP removed) (ops.take n) 0) ψ x = s * semOps k (ops.take n) ψ x

theorem semInv_push (k : Consts R) (ops : List Op) (n : Nat) (removed : List Nat) (o : Op)
    (ho : ops[n]? = some o) (hrem : ∀ i ∈ removed, i < n) (h : SemInv k ops n removed) :
    SemInv k ops (n + 1) removed := by
  show SignEq _ _
  rw [keepIdx_take_succ _ ho, if_pos (by simpa [keepP] using fun hm => Nat.lt_irrefl n (hrem n hm)),
    take_succ_of_getElem? ops n o ho]
  exact SignEq.append k h (.refl _)

theorem semInv_remove (k : Consts R) (L : k.Laws) (ops : List Op) (n j0 : Nat) (removed : List Nat) (on oj : Op)
    (hon : ops[n]? = some on) (hoj : ops[j0]? = some oj) (hj0 : j0 < n)
    (hsign : ∃ t : R, t * t = 1 ∧ ∀ (φ : State R) (x : Bits), on.sem k φ x = t * oj.inv.sem k φ x)
    (hwf : oj.qubits.Nodup) (hj0r : j0 ∉ removed)
    (hfree : ∀ i o', j0 < i → i < n → i ∉ removed → ops[i]? = some o' → ∀ q ∈ oj.qubits, q ∉ o'.qubits)
    (h : SemInv k ops n removed) : SemInv k ops (n + 1) (n :: j0 :: removed) := by
  have hlen := List.length_take_le n ops
  obtain ⟨PA, PB, hkp, hkp', hPB⟩ := keepIdx_remove (keepP removed) (keepP (n :: j0 :: removed)) (ops.take n) j0 oj
    (by rw [List.getElem?_take_of_lt hj0]; exact hoj) (by simp [keepP, hj0r]) (by simp [keepP])
    -- `i` indexes `ops.take n`, so `i ≠ n`: among the positions in range only `j0` is marked in addition
    (fun i hi hne => by simp [keepP, hne]; omega)
  have hd : ∀ o' ∈ PB, ∀ q ∈ oj.inv.qubits, q ∉ o'.qubits := by
    intro o' ho' q hq
    obtain ⟨i, hji, hi, hpi⟩ := hPB o' ho'
    have hin : i < n := Nat.lt_of_lt_of_le (List.getElem?_eq_some_iff.mp hi).1 hlen
    rw [List.getElem?_take_of_lt hin] at hi
    exact hfree i o' hji hin (by simpa [keepP] using hpi) hi q (Op.inv_qubits oj ▸ hq)
  show SignEq _ _
  rw [keepIdx_take_succ _ hon, if_neg (by simp [keepP]), List.append_nil, take_succ_of_getElem? ops n on hon, hkp']
  -- the kept list is `PA ++ PB`; put the cancelling pair `oj … oj⁻¹` back, then trade `oj⁻¹` for `on`
  refine (SignEq.of_eq fun ψ => (cancel_at_distance_sound k L oj hwf PA PB hd ψ).symm).trans ?_
  rw [List.append_assoc PA, List.singleton_append, ← hkp]
  exact SignEq.append k h (SignEq.symm hsign)

theorem ops_at (gs : List Gate) (ops : List Op) (h : gatesToOps gs = some ops) (i : Nat) (g : Gate) (hg : gs[i]? = some g) :
    ∃ o, ops[i]? = some o ∧ g.toOp = some o := gatesToOps_op_at h hg

theorem op_qubits_ne_nil (o : Op) : o.qubits ≠ [] := by cases o <;> simp [Op.qubits]

/-- what the code's gate equality must guarantee for the cancellation to be sound: equal gates act on the same qubits
    and implement the same operation up to a sign -/
def EqvSound (k : Consts R) (eqv : Gate → Gate → Bool) : Prop :=
  ∀ a b oa ob, eqv a b = true → a.toOp = some oa → b.toOp = some ob →
    a.qubits = b.qubits ∧ ∃ t : R, t * t = 1 ∧ ∀ (φ : State R) (x : Bits), ob.sem k φ x = t * oa.sem k φ x

/-- one iteration at position `n`: either the gate is pushed on the stacks of its qubits, or the tops of all these
    stacks are one position `j0` whose gate it cancels, and `n`, `j0` are marked -/
theorem rrStep_sound (k : Consts R) (L : k.Laws) (eqv : Gate → Gate → Bool) (heqv : EqvSound k eqv)
    (gs : List Gate) (ops : List Op) (hops : gatesToOps gs = some ops) (hnd : ∀ g ∈ gs, g.qubits.Nodup)
    (w n : Nat) (st st' : RRSt) (gate : Gate) (hg : gs[n]? = some gate)
    (hinv : RRInv gs n st) (hsem : SemInv k ops n st.2)
    (h : rrStep eqv gs w st (n, gate) = .ok st') :
    RRInv gs (n + 1) st' ∧ SemInv k ops (n + 1) st'.2 := by
  obtain ⟨stk, removed⟩ := st
  obtain ⟨on, hon, hton⟩ := gatesToOps_op_at hops hg
  simp only [rrStep] at h
  split at h
  · cases h
  split at h
  · cases h
  swap
  · cases h
    exact ⟨rrInv_push gs n _ gate hinv hg (hnd gate (List.mem_of_getElem? hg)),
      semInv_push k ops n removed on hon hinv.rem_lt hsem⟩
  rename_i hc
  cases h
  -- what the check found for each qubit of the gate: on top of its stack, a gate on the same qubits whose
  -- inverse is the gate up to sign
  have hall : ∀ q ∈ gate.qubits, ∃ j gp oj, rrTop stk q = some j ∧ gs[j]? = some gp ∧ ops[j]? = some oj ∧
      gp.toOp = some oj ∧ gp.qubits = gate.qubits ∧ SignEq (on.sem k) (oj.inv.sem k) := by
    intro q hq
    obtain ⟨j, gp, gpi, htop, hgp, hgpi, he⟩ := rrCheck_true eqv gs stk gate gate.qubits hc q hq
    obtain ⟨oj, hoj, htoj⟩ := gatesToOps_op_at hops hgp
    obtain ⟨hqeq, hsign⟩ := heqv gpi gate oj.inv on he (gate_inverse_toOp gp gpi oj htoj hgpi) hton
    exact ⟨j, gp, oj, htop, hgp, hoj, htoj, by rw [← hqeq, Gate.inverse_qubits hgpi], hsign⟩
  obtain ⟨q0, qs', hq0⟩ : ∃ q0 qs', gate.qubits = q0 :: qs' :=
    List.exists_cons_of_ne_nil (Gate.qubits_ne_nil_of_toOp hton)
  have hq0m : q0 ∈ gate.qubits := hq0 ▸ List.mem_cons_self
  obtain ⟨j0, gp, oj, htop0, hgp, hoj, htoj, hgpq, hsign⟩ := hall q0 hq0m
  -- all the tops are the top `j0` of the first qubit, the position the code marks
  have htopall : ∀ q ∈ gate.qubits, rrTop stk q = some j0 := by
    intro q hq
    obtain ⟨j, gp', -, hj, hgp', -, -, hq', -⟩ := hall q hq
    rw [hj, hinv.top_eq hj htop0 hgp' hgp (hq' ▸ hq0m) (hgpq ▸ hq)]
  rw [show rrFirst stk gate.qubits = j0 by simp [hq0, rrFirst, htop0]]
  obtain ⟨hj0n, hj0r, -⟩ := hinv.top_mem htop0
  refine ⟨rrInv_remove gs n (stk, removed) gate gp j0 hinv hg htopall hgp hgpq hj0n,
    semInv_remove k L ops n j0 removed on oj hon hoj hj0n hsign ?_ hj0r ?_ hsem⟩
  · rw [Gate.toOp_qubits htoj]; exact hnd gp (List.mem_of_getElem? hgp)
  · -- an unmarked gate strictly between `j0` and `n` on a qubit of the gate would sit above the top
    intro i o' hji hin hir hoi q hq hq'
    obtain ⟨gi, hgi, htoi⟩ := gatesToOps_gate_at hops hoi
    rw [Gate.toOp_qubits htoj, hgpq] at hq
    rw [Gate.toOp_qubits htoi] at hq'
    exact absurd (hinv.le_top (htopall q hq) hin hir hgi hq') (by omega)

/-- the loop over the suffix from position `n`: `RRInv` and `SemInv` speak of the first `n` gates, so the induction carries
    the position along (`foldlM_ok_induction` would give the step a member of the list but not its index) -/
theorem rrFold_sound (k : Consts R) (L : k.Laws) (eqv : Gate → Gate → Bool) (heqv : EqvSound k eqv)
    (gs : List Gate) (ops : List Op) (hops : gatesToOps gs = some ops) (hnd : ∀ g ∈ gs, g.qubits.Nodup) (w : Nat) :
    ∀ (suf : List Gate) (n : Nat) (st st' : RRSt), (∀ i g, suf[i]? = some g → gs[n + i]? = some g) →
      RRInv gs n st → SemInv k ops n st.2 →
      ((suf.zipIdx n).map (fun (g, i) => (i, g))).foldlM (rrStep eqv gs w) st = .ok st' →
      RRInv gs (n + suf.length) st' ∧ SemInv k ops (n + suf.length) st'.2 := by
  intro suf
  induction suf with
  | nil => intro n st st' _ hinv hsem h; cases h; exact ⟨hinv, hsem⟩
  | cons g rest ih =>
    intro n st st' hsuf hinv hsem h
    rw [List.zipIdx_cons, List.map_cons, List.foldlM_cons] at h
    obtain ⟨st1, hs, h⟩ := bind_eq_ok.mp h
    obtain ⟨hinv1, hsem1⟩ := rrStep_sound k L eqv heqv gs ops hops hnd w n st st1 g (hsuf 0 g rfl) hinv hsem hs
    rw [List.length_cons, show n + (rest.length + 1) = n + 1 + rest.length by omega]
    exact ih (n + 1) st1 st' (fun i g' hi => (show n + (i + 1) = n + 1 + i by omega) ▸ hsuf (i + 1) g' hi) hinv1 hsem1 h

/-- what the threshold test of `remove_small_rotations` must guarantee: a dropped rotation is ± the identity -/
def SmallSound (k : Consts R) (isSmall : Gate → Bool) : Prop :=
  ∀ g o, g.toOp = some o → (rotSmallSet.contains g.name && isSmall g) = true → IsSignId k o

/-- gates the code's equality identifies act on the same qubits (all that `merge_rotations` needs of it) -/
def EqvQubits (eqv : Gate → Gate → Bool) : Prop := ∀ a b, eqv a b = true → a.qubits = b.qubits

/-- the operations of a circuit implement `ops0` up to a sign -/
def SameUpToSign (k : Consts R) (gs : List Gate) (ops0 : List Op) : Prop :=
  ∃ ops s, gatesToOps gs = some ops ∧ s * s = 1 ∧ ∀ (ψ : State R) (x : Bits), semOps k ops ψ x = s * semOps k ops0 ψ x

theorem sameUpToSign_iff (k : Consts R) (gs : List Gate) (ops0 : List Op) :
    SameUpToSign k gs ops0 ↔ ∃ ops, gatesToOps gs = some ops ∧ SignEq (semOps k ops) (semOps k ops0) :=
  exists_congr fun _ => exists_and_left

/-- **`remove_redundant_gates` as a whole pass**: for every circuit over the supported gate set (gates with distinct
    qubits), however the gates that cancel are interleaved with gates on other qubits and however many cancellations
    cascade, the circuit the pass returns implements the same operation up to one global sign. The code's gate equality
    enters through `EqvSound` only (exact equality satisfies it with sign 1; the float tolerance of the real `==` is an
    input of the model). -/
theorem removeRedundant_sound (k : Consts R) (L : k.Laws) (eqv : Gate → Gate → Bool) (heqv : EqvSound k eqv)
    (c r : Circuit) (rq : Bool) (ops : List Op)
    (h1 : gatesToOps c.gates = some ops) (hnd : ∀ g ∈ c.gates, g.qubits.Nodup)
    (h2 : removeRedundantWith eqv c rq = .ok r) :
    ∃ ops' s, gatesToOps r.gates = some ops' ∧ s * s = 1 ∧
      ∀ (ψ : State R) (x : Bits), semOps k ops' ψ x = s * semOps k ops ψ x := by
  obtain ⟨stk, removed, n, hf, hr⟩ := removeRedundantWith_ok h2
  obtain ⟨-, hsem⟩ := rrFold_sound k L eqv heqv c.gates ops h1 hnd c.width c.gates 0 ([], []) (stk, removed)
    (fun i g hi => by simpa using hi) (rrInv_init c.gates) (SignEq.refl _) hf
  rw [Nat.zero_add, ← gatesToOps_length h1, SemInv, List.take_length] at hsem
  have hg : r.gates = keepIdx (keepP removed) c.gates 0 :=
    (Circuit.gates_ofGates hr).trans (zipIdx_filter_eq_keepIdx (keepP removed) c.gates 0)
  exact (sameUpToSign_iff k _ _).mpr ⟨_, hg ▸ gatesToOps_keepIdx _ _ _ 0 h1, hsem⟩

/-- exact equality of gates satisfies `EqvSound`, with sign 1. Nothing of the kind can be proved of `Gate.eqv`, which
    compares rounded `Float` remainders; its only provable part is `gate_eqv_qubits` -/
theorem eqvSound_exact (k : Consts R) : EqvSound k (fun a b => a == b) := by
  intro a b oa ob h ha hb
  cases (beq_iff_eq.mp h : a = b)
  cases Option.some.inj (ha.symm.trans hb)
  exact ⟨rfl, SignEq.refl (oa.sem k)⟩

theorem removeRedundant_sound_exec (c r : Circuit) (rq : Bool) (ops : List Op)
    (h1 : gatesToOps c.gates = some ops) (hnd : ∀ g ∈ c.gates, g.qubits.Nodup)
    (h2 : removeRedundantWith (fun a b => a == b) c rq = .ok r) :
    ∃ ops' s, gatesToOps r.gates = some ops' ∧ s * s = 1 ∧
      ∀ (ψ : State Cyc) (x : Bits), semOps cycConsts ops' ψ x = s * semOps cycConsts ops ψ x :=
  removeRedundant_sound cycConsts cycConsts_laws _ (eqvSound_exact cycConsts) c r rq ops h1 hnd h2

/-- H(0) X(1) H(0) X(1): both pairs cancel although they are interleaved (4 gates → 0) -/
example : ∃ c r, Circuit.ofGates [⟨"H", [0], none, .none, false⟩, ⟨"X", [1], none, .none, false⟩,
      ⟨"H", [0], none, .none, false⟩, ⟨"X", [1], none, .none, false⟩] none = .ok c ∧
    Circuit.removeRedundantWith (fun a b => a == b) c false = .ok r ∧ r.gates.length = 0 := by
  refine ⟨_, _, rfl, rfl, by decide⟩

/-! ## `simplify`: a round of the three passes keeps `SameUpToSign` and `GatesNodup` -/

/-- true of every gate the constructor accepts (`C11.mk?_sound`) -/
def GatesNodup (gs : List Gate) : Prop := ∀ g ∈ gs, g.qubits.Nodup

theorem GatesNodup.of_subset {l l' : List Gate} (h : l' ⊆ l) (hl : GatesNodup l) : GatesNodup l' :=
  fun g hg => hl g (h hg)

theorem mergeStep_nodup (eqv : Gate → Gate → Bool) (w : Nat) (st st' : MergeSt) (gate : Gate)
    (hst : GatesNodup st.out.toList) (hg : gate.qubits.Nodup) (h : mergeStep eqv w st gate = .ok st') :
    GatesNodup st'.out.toList := by
  rcases mergeStep_cases h with rfl | ⟨g0, gtl, i0, itl, p, -, hpg, -, -, -, -, -, -, -, rfl⟩
  · intro g hgm
    rw [out_record, List.mem_append, List.mem_singleton] at hgm
    rcases hgm with e | rfl
    exacts [hst g e, hg]
  -- `g0` is one of the gates of the output, and the merged gate has its qubits
  have hg0mem : g0 ∈ st.out.toList := by
    obtain ⟨_ | i, _, hoi⟩ := List.mem_filterMap.mp (hpg ▸ List.mem_cons_self : g0 ∈ _)
    · cases hoi
    · exact List.mem_of_getElem? (l := st.out.toList) (i := i) (by simpa using hoi)
  intro g hgm
  rw [Array.toList_set!] at hgm
  rcases List.mem_or_eq_of_mem_set hgm with e | rfl
  exacts [hst g e, hst g0 hg0mem]

theorem mergeRotations_nodup (eqv : Gate → Gate → Bool) (c r : Circuit) (hnd : GatesNodup c.gates)
    (h : mergeRotationsWith eqv c = .ok r) : GatesNodup r.gates := by
  obtain ⟨st, hf, hr⟩ := mergeRotationsWith_ok h
  rw [Circuit.gates_ofGates hr]
  exact foldlM_ok_inv (P := fun st => GatesNodup st.out.toList)
    (fun s s' g hg hs hstep => mergeStep_nodup eqv c.width s s' g hs (hnd g hg) hstep) (by intro g hg; simp at hg) hf

theorem removeSmall_nodup (isSmall : Gate → Bool) (c r : Circuit) (rq : Bool) (hnd : GatesNodup c.gates)
    (h : c.removeSmallWith isSmall rq = .ok r) : GatesNodup r.gates := by
  obtain ⟨n, hr⟩ := removeSmallWith_ok h
  rw [Circuit.gates_ofGates hr]
  exact GatesNodup.of_subset List.filter_sublist.subset hnd

theorem removeRedundant_nodup (eqv : Gate → Gate → Bool) (c r : Circuit) (rq : Bool) (hnd : GatesNodup c.gates)
    (h : removeRedundantWith eqv c rq = .ok r) : GatesNodup r.gates := by
  obtain ⟨stk, removed, n, -, hr⟩ := removeRedundantWith_ok h
  rw [Circuit.gates_ofGates hr]
  refine GatesNodup.of_subset (fun g hg => ?_) hnd
  obtain ⟨p, hp, rfl⟩ := List.mem_map.mp hg
  exact (List.mem_zipIdx' (List.mem_filter.mp hp).1).2 ▸ List.getElem_mem _

theorem sameUpToSign_trans (k : Consts R) (gs : List Gate) (ops1 ops0 : List Op)
    (h : ∃ ops s, gatesToOps gs = some ops ∧ s * s = 1 ∧ ∀ (ψ : State R) (x : Bits), semOps k ops ψ x = s * semOps k ops1 ψ x)
    (s1 : R) (hs1 : s1 * s1 = 1) (h1 : ∀ (ψ : State R) (x : Bits), semOps k ops1 ψ x = s1 * semOps k ops0 ψ x) :
    SameUpToSign k gs ops0 := by
  obtain ⟨ops, hg, hsem⟩ := (sameUpToSign_iff k gs ops1).mp h
  exact (sameUpToSign_iff k gs ops0).mpr ⟨ops, hg, hsem.trans ⟨s1, hs1, h1⟩⟩

theorem one_round_sound (k : Consts R) (L : k.Laws) (eqv : Gate → Gate → Bool) (isSmall : Gate → Bool)
    (hq : EqvQubits eqv) (heqv : EqvSound k eqv) (hsmall : SmallSound k isSmall) (rq : Bool)
    (c m s r : Circuit) (ops0 : List Op) (hc : SameUpToSign k c.gates ops0) (hnd : GatesNodup c.gates)
    (hm : mergeRotationsWith eqv c = .ok m) (hs : removeSmallWith isSmall m rq = .ok s)
    (hr : removeRedundantWith eqv s rq = .ok r) :
    SameUpToSign k r.gates ops0 ∧ GatesNodup r.gates := by
  obtain ⟨opsc, hgc, hsemc⟩ := (sameUpToSign_iff k _ _).mp hc
  obtain ⟨opsm, hgm, hsemm⟩ := mergeRotations_sound k L eqv hq c m opsc hgc hnd hm
  have hndm := mergeRotations_nodup eqv c m hnd hm
  obtain ⟨opss, ss, hgs, hss, hsems⟩ := removeSmall_sound k isSmall m s rq opsm hgm hs fun i g o hgi hoi hsm => by
    obtain ⟨o', ho', hto⟩ := gatesToOps_op_at hgm hgi
    exact hsmall g o (Option.some.inj (ho'.symm.trans hoi) ▸ hto) hsm
  have hnds := removeSmall_nodup isSmall m s rq hndm hs
  obtain ⟨t, ht, hsem⟩ := (SignEq.iff_funext.mpr ⟨ss, hss, hsems⟩).trans <| .trans (.of_eq hsemm) hsemc
  exact ⟨sameUpToSign_trans k r.gates opss ops0 (removeRedundant_sound k L eqv heqv s r rq opss hgs hnds hr) t ht hsem,
    removeRedundant_nodup eqv s r rq hnds hr⟩

theorem simplify_loop_sound (k : Consts R) (L : k.Laws) (eqv : Gate → Gate → Bool) (isSmall : Gate → Bool)
    (hq : EqvQubits eqv) (heqv : EqvSound k eqv) (hsmall : SmallSound k isSmall) (maxCycles : Nat) (rq : Bool)
    (ops0 : List Op) :
    ∀ (fuel i : Nat) (cOld cNew r : Circuit), SameUpToSign k cOld.gates ops0 → GatesNodup cOld.gates →
      simplifyWith.loop eqv isSmall maxCycles rq fuel i cOld cNew = .ok r → SameUpToSign k r.gates ops0 :=
  fun fuel i cOld cNew r ho hnd h =>
    (simplifyWith_loop_ind (fun c => SameUpToSign k c.gates ops0 ∧ GatesNodup c.gates) eqv isSmall maxCycles rq
      (fun c m s r hc => one_round_sound k L eqv isSmall hq heqv hsmall rq c m s r ops0 hc.1 hc.2)
      fuel i cOld cNew r ⟨ho, hnd⟩ h).1

/-- **`simplify`**: merging rotations, dropping small rotations and cancelling inverse pairs, iterated until nothing
    changes or `max_cycles` is reached, returns a circuit that implements the operation of the original up to one
    global sign - for every circuit over the supported set and every number of cycles. The code's float
    decisions enter through `EqvQubits`/`EqvSound` (gate equality) and `SmallSound` (threshold test) only. -/
theorem simplify_sound (k : Consts R) (L : k.Laws) (eqv : Gate → Gate → Bool) (isSmall : Gate → Bool)
    (hq : EqvQubits eqv) (heqv : EqvSound k eqv) (hsmall : SmallSound k isSmall)
    (c r : Circuit) (maxCycles : Nat) (rq : Bool) (ops : List Op)
    (h1 : gatesToOps c.gates = some ops) (hnd : GatesNodup c.gates)
    (h2 : simplifyWith eqv isSmall c maxCycles rq = .ok r) :
    ∃ ops' s, gatesToOps r.gates = some ops' ∧ s * s = 1 ∧
      ∀ (ψ : State R) (x : Bits), semOps k ops' ψ x = s * semOps k ops ψ x := by
  obtain ⟨c0, hc0, h2⟩ := bind_eq_ok.mp h2
  have hg0 : c0.gates = c.gates := copy_gates c c0 hc0
  exact simplify_loop_sound k L eqv isSmall hq heqv hsmall maxCycles rq ops _ _ c0 _ r
    ((sameUpToSign_iff k _ _).mpr ⟨ops, hg0 ▸ h1, .refl _⟩) (hg0 ▸ hnd) h2

/-- the exact threshold test: only a rotation by exactly 0 is dropped -/
def exactSmall (g : Gate) : Bool := g.param == .ang 0

theorem smallSound_exact (k : Consts R) (L : k.Laws) : SmallSound k exactSmall := by
  intro g o hto hsm
  simp only [exactSmall, Bool.and_eq_true, beq_iff_eq] at hsm
  -- the name table is read for the merge set only (`Gate.toOp_rotMerge`); the set of this pass lies inside it
  have hsub : ∀ x ∈ rotSmallSet, x ∈ rotMergeSet := by decide
  obtain ⟨b, a, t, cs, hb, hpa, rfl⟩ := Gate.toOp_rotMerge (by simpa using hsub _ (by simpa using hsm.1)) hto
  cases hsm.2.symm.trans hpa
  exact ⟨1, mul_one 1, fun ψ => by simp only [Op.sem, baseMatrix_zero k L hb, ctl_app1_one, one_mul]⟩

theorem eqvQubits_exact : EqvQubits (fun a b => a == b) :=
  fun _ _ h => congrArg Gate.qubits (beq_iff_eq.mp h)

/-- with exact gate equality and the exact threshold test no hypothesis about floats is left -/
theorem simplify_sound_exec (c r : Circuit) (maxCycles : Nat) (rq : Bool) (ops : List Op)
    (h1 : gatesToOps c.gates = some ops) (hnd : GatesNodup c.gates)
    (h2 : simplifyWith (fun a b => a == b) exactSmall c maxCycles rq = .ok r) :
    ∃ ops' s, gatesToOps r.gates = some ops' ∧ s * s = 1 ∧
      ∀ (ψ : State Cyc) (x : Bits), semOps cycConsts ops' ψ x = s * semOps cycConsts ops ψ x :=
  simplify_sound cycConsts cycConsts_laws _ _ eqvQubits_exact
    (eqvSound_exact cycConsts) (smallSound_exact cycConsts cycConsts_laws) c r maxCycles rq ops h1 hnd h2

/-- RZ(π/4), RZ(−π/4) on qubit 0 interleaved with H, H on qubit 1 simplify to the empty circuit -/
example : ∃ c r, Circuit.ofGates [⟨"RZ", [0], none, .ang (Ang.piQuarter 1), false⟩, ⟨"H", [1], none, .none, false⟩,
      ⟨"RZ", [0], none, .ang (Ang.piQuarter (-1)), false⟩, ⟨"H", [1], none, .none, false⟩] none = .ok c ∧
    Circuit.simplifyWith (fun a b => a == b) exactSmall c 5 false = .ok r ∧ r.gates.length = 0 := by
  refine ⟨_, _, rfl, rfl, by decide⟩

/-! ## `trim_qubits`, `reindex_qubits`, the blocks of `stack` relabel injectively; `*` iterates -/

/-- what `Gate.relabel σ` denotes (`toOp_relabel`) -/
def Op.relabel (σ : Nat → Nat) : Op → Op
  | .one b θ t cs => .one b θ (σ t) (cs.map σ)
  | .swap a b cs => .swap (σ a) (σ b) (cs.map σ)
  | .xx θ a b => .xx θ (σ a) (σ b)

/-- the old-label bit string seen through the relabelling: old qubit `q` is new qubit `σ q` -/
def pull (σ : Nat → Nat) (y : Bits) : Bits := fun q => y (σ q)

theorem pull_set (σ : Nat → Nat) (hσ : Function.Injective σ) (y : Bits) (t : Nat) (b : Bool) :
    pull σ (y.set (σ t) b) = (pull σ y).set t b := by
  funext q; simp only [pull, Bits.set, hσ.eq_iff]

theorem pull_flip (σ : Nat → Nat) (hσ : Function.Injective σ) (y : Bits) (t : Nat) :
    pull σ (y.flip (σ t)) = (pull σ y).flip t := by
  funext q; simp only [pull, Bits.flip, hσ.eq_iff]

theorem pull_swap (σ : Nat → Nat) (hσ : Function.Injective σ) (y : Bits) (a b : Nat) :
    pull σ (y.swap (σ a) (σ b)) = (pull σ y).swap a b := by
  funext q; simp only [pull, Bits.swap, hσ.eq_iff]

/-- the relabelled operation acts on the relabelled register as the original on the original one -/
theorem relabel_sem (k : Consts R) (σ : Nat → Nat) (hσ : Function.Injective σ) (o : Op) (ψ : State R) (y : Bits) :
    (Op.relabel σ o).sem k (fun z => ψ (pull σ z)) y = o.sem k ψ (pull σ y) := by
  cases o <;>
    simp only [Op.relabel, Op.sem, ctl, app1, appSwap, appXX, List.all_map, pull_set σ hσ, pull_swap σ hσ,
      pull_flip σ hσ] <;> rfl

theorem relabel_semOps (k : Consts R) (σ : Nat → Nat) (hσ : Function.Injective σ) (ops : List Op) (ψ : State R) (y : Bits) :
    semOps k (ops.map (Op.relabel σ)) (fun z => ψ (pull σ z)) y = semOps k ops ψ (pull σ y) := by
  unfold semOps
  rw [List.foldl_map]
  exact congrFun (List.foldl_hom (fun (φ : State R) z => φ (pull σ z)) fun φ o => funext (relabel_sem k σ hσ o φ)) y

theorem relabel_comp (σ τ : Nat → Nat) (o : Op) : Op.relabel τ (Op.relabel σ o) = Op.relabel (τ ∘ σ) o := by
  cases o <;> simp [Op.relabel, List.map_map]

theorem baseOp_relabel (σ : Nat → Nat) (b : Base) (t : Nat) (cs : List Nat) (p : Param) :
    Gate.baseOp b (σ t) (cs.map σ) p = (Gate.baseOp b t cs p).map (Op.relabel σ) := by
  unfold Gate.baseOp
  split
  · rfl
  · split <;> rfl

theorem reads_relabel (σ : Nat → Nat) {sh : Gate.Shape} {tgt : List Nat} {ctl : Option (List Nat)} {p : Param} {o : Op}
    (h : Gate.Reads sh tgt ctl p o) : Gate.Reads sh (tgt.map σ) (ctl.map (List.map σ)) p (Op.relabel σ o) := by
  cases h with
  | one1 h => exact .one1 ((baseOp_relabel σ _ _ [] _).trans (congrArg _ h))
  | oneC h => exact .oneC ((baseOp_relabel σ _ _ _ _).trans (congrArg _ h))
  | swap => exact .swap
  | cswap => exact .cswap
  | xx => exact .xx

theorem toOp_relabel (σ : Nat → Nat) {g : Gate} {o : Op} (h : g.toOp = some o) :
    (g.relabel σ).toOp = some (Op.relabel σ o) :=
  let ⟨sh, hs, hr⟩ := Gate.toOp_eq_some.mp h
  Gate.toOp_eq_some.mpr ⟨sh, hs, reads_relabel σ hr⟩

theorem gatesToOps_relabel (σ : Nat → Nat) {gs : List Gate} {ops : List Op} (h : gatesToOps gs = some ops) :
    gatesToOps (gs.map (Gate.relabel σ)) = some (ops.map (Op.relabel σ)) := by
  rw [gatesToOps_eq_some_iff] at h ⊢
  rw [List.map_map, List.map_map]
  exact map_eq_map_imp (fun g o => toOp_relabel σ) h

theorem mapList_eq_map (m : List (Nat × Nat)) (σ : Nat → Nat) (hσm : ∀ q q', mapIdx m q = .ok q' → σ q = q')
    (l l' : List Nat) (h : mapList m l = .ok l') : l' = l.map σ :=
  (mapList_eq_ok hσm h).1

theorem remapGate_toOp (m : List (Nat × Nat)) (σ : Nat → Nat) (hσm : ∀ q q', mapIdx m q = .ok q' → σ q = q')
    (g g' : Gate) (o : Op) (h : remapGate m g = .ok g') (ho : g.toOp = some o) :
    g'.toOp = some (Op.relabel σ o) := by
  obtain ⟨rfl, -⟩ := remapGate_eq_ok hσm h
  exact toOp_relabel σ ho

theorem remapGates_toOps (m : List (Nat × Nat)) (σ : Nat → Nat) (hσm : ∀ q q', mapIdx m q = .ok q' → σ q = q')
    (gs gs' : List Gate) (ops : List Op) (h : remapGates m gs = .ok gs') (ho : gatesToOps gs = some ops) :
    gatesToOps gs' = some (ops.map (Op.relabel σ)) := by
  obtain ⟨rfl, -⟩ := remapGates_eq_ok hσm h
  exact gatesToOps_relabel σ ho

/-- a relabelling table extended to all qubit labels: labels outside the table are moved above `M`. With `M` above
    the table's values this extension is injective on all of `Nat` (`extend_injective`), which `relabel_sem` asks for;
    the identity outside the table (`tblFun`) is not -/
def extend (m : List (Nat × Nat)) (M : Nat) (q : Nat) : Nat :=
  match m.find? (·.1 == q) with
  | some p => p.2
  | none => q + M

theorem extend_spec (m : List (Nat × Nat)) (M q : Nat) :
    mapIdx m q = .ok (extend m M q) ∨ (mapIdx m q = .error .key ∧ extend m M q = q + M) := by
  cases h : m.find? (·.1 == q) <;> simp [extend, mapIdx, h]

theorem extend_agrees (m : List (Nat × Nat)) (M q q' : Nat) (h : mapIdx m q = .ok q') : extend m M q = q' := by
  rcases extend_spec m M q with e | ⟨e, -⟩
  · exact Except.ok.inj (e.symm.trans h)
  · cases e.symm.trans h

theorem extend_injective (m : List (Nat × Nat)) (M : Nat) (hval : ∀ p ∈ m, ∀ p' ∈ m, p.2 = p'.2 → p.1 = p'.1)
    (hM : ∀ p ∈ m, p.2 < M) : Function.Injective (extend m M) := by
  intro q1 q2 h
  -- values from the table are below `M`, shifted ones are not
  rcases extend_spec m M q1 with e1 | ⟨-, e1⟩ <;> rcases extend_spec m M q2 with e2 | ⟨-, e2⟩
  · exact hval _ (mem_of_mapIdx_eq_ok e1) _ (mem_of_mapIdx_eq_ok e2) h
  · have := hM _ (mem_of_mapIdx_eq_ok e1); simp only at this; omega
  · have := hM _ (mem_of_mapIdx_eq_ok e2); simp only at this; omega
  · omega

theorem trim_ops (c r : Circuit) (ops : List Op) (h1 : gatesToOps c.gates = some ops) (h2 : c.trimQubits = .ok r) :
    ∃ σ : Nat → Nat, Function.Injective σ ∧ gatesToOps r.gates = some (ops.map (Op.relabel σ)) := by
  obtain ⟨rfl, -⟩ := trimQubits_eq_ok (extend_agrees _ c.inUse.length) h2
  refine ⟨_, extend_injective _ _ ?_ fun p hp => (List.mem_zipIdx' hp).1, gatesToOps_relabel _ h1⟩
  rintro ⟨a, i⟩ hp ⟨a', _⟩ hp' rfl
  exact (List.mem_zipIdx' hp).2.trans (List.mem_zipIdx' hp').2.symm

theorem exists_bound (l : List Nat) : ∃ M, ∀ b ∈ l, b < M :=
  ⟨l.max?.getD 0 + 1, fun _ hb => Nat.lt_succ_of_le (List.le_max?_getD_of_mem hb)⟩

theorem zip_snd_inj {α : Type} (l : List α) (r : List Nat) (hr : r.Nodup) :
    ∀ p ∈ l.zip r, ∀ p' ∈ l.zip r, p.2 = p'.2 → p.1 = p'.1 := by
  intro p hp p' hp' he
  obtain ⟨i, hi, rfl⟩ := List.mem_iff_getElem.mp hp
  obtain ⟨j, hj, rfl⟩ := List.mem_iff_getElem.mp hp'
  simp only [List.getElem_zip] at he ⊢
  cases (List.getElem_inj hr).mp he
  rfl

theorem reindex_ops (c r : Circuit) (newIdx : List Nat) (hnd : newIdx.Nodup) (ops : List Op)
    (h1 : gatesToOps c.gates = some ops) (h2 : c.reindexQubits newIdx = .ok r) :
    ∃ σ : Nat → Nat, Function.Injective σ ∧ gatesToOps r.gates = some (ops.map (Op.relabel σ)) := by
  obtain ⟨M, hM⟩ := exists_bound newIdx
  obtain ⟨rfl, -⟩ := reindexQubits_eq_ok (extend_agrees _ M) h2
  exact ⟨_, extend_injective _ _ (zip_snd_inj c.indices newIdx hnd) fun p hp => hM p.2 (List.of_mem_zip hp).2,
    gatesToOps_relabel _ h1⟩

/-- **`trim_qubits`**: the trimmed circuit acts on its compact register exactly as the original acts on the qubits in
    use, through an injective relabelling `σ` of qubit labels (the proof takes the one sending the i-th qubit in use to
    `i`; the statement asserts injectivity only) -/
theorem trim_sem (k : Consts R) (c r : Circuit) (ops : List Op) (h1 : gatesToOps c.gates = some ops)
    (h2 : c.trimQubits = .ok r) :
    ∃ σ : Nat → Nat, Function.Injective σ ∧ ∃ ops', gatesToOps r.gates = some ops' ∧
      ∀ (ψ : State R) (y : Bits), semOps k ops' (fun z => ψ (pull σ z)) y = semOps k ops ψ (pull σ y) :=
  let ⟨σ, hσ, h⟩ := trim_ops c r ops h1 h2
  ⟨σ, hσ, _, h, relabel_semOps k σ hσ ops⟩

/-- **`reindex_qubits`**: with pairwise distinct new indices, the re-indexed circuit acts on the relabelled register
    as the original acts on the original one -/
theorem reindex_sem (k : Consts R) (c r : Circuit) (newIdx : List Nat) (hnd : newIdx.Nodup) (ops : List Op)
    (h1 : gatesToOps c.gates = some ops) (h2 : c.reindexQubits newIdx = .ok r) :
    ∃ σ : Nat → Nat, Function.Injective σ ∧ ∃ ops', gatesToOps r.gates = some ops' ∧
      ∀ (ψ : State R) (y : Bits), semOps k ops' (fun z => ψ (pull σ z)) y = semOps k ops ψ (pull σ y) :=
  let ⟨σ, hσ, h⟩ := reindex_ops c r newIdx hnd ops h1 h2
  ⟨σ, hσ, _, h, relabel_semOps k σ hσ ops⟩

theorem gatesToOps_replicate (gs : List Gate) (ops : List Op) (h : gatesToOps gs = some ops) (n : Nat) :
    gatesToOps (List.flatten (List.replicate n gs)) = some (List.flatten (List.replicate n ops)) :=
  Tangelo.gatesToOps_replicate h n

/-- **`circuit * n`** applies the circuit's operation `n` times -/
theorem mul_sem (k : Consts R) (c r : Circuit) (n : Int) (ops : List Op) (h : c.mul n = .ok r)
    (hc : gatesToOps c.gates = some ops) (ψ : State R) :
    ∃ ops', gatesToOps r.gates = some ops' ∧ semOps k ops' ψ = (fun φ => semOps k ops φ)^[n.toNat] ψ := by
  unfold Circuit.mul at h
  split at h
  · cases h
  · exact ⟨_, Circuit.gates_ofGates h ▸ Tangelo.gatesToOps_replicate hc _, semOps_flatten_replicate k ops _ ψ⟩

/-- the operations are the concatenation of injectively relabelled copies of the given operation lists -/
def Blocks (opss : List (List Op)) (ops : List Op) : Prop :=
  ∃ σs : List (Nat → Nat), σs.length = opss.length ∧ (∀ σ ∈ σs, Function.Injective σ) ∧
    ops = ((opss.zip σs).map (fun p => p.1.map (Op.relabel p.2))).flatten

theorem blocks_cons_iff {o : List Op} {opss : List (List Op)} {ops : List Op} :
    Blocks (o :: opss) ops ↔
      ∃ σ tail, Function.Injective σ ∧ Blocks opss tail ∧ ops = o.map (Op.relabel σ) ++ tail := by
  constructor
  · rintro ⟨_ | ⟨σ, σs⟩, hl, hinj, rfl⟩
    · simp at hl
    · rw [List.forall_mem_cons] at hinj
      exact ⟨σ, _, hinj.1, ⟨σs, by simpa using hl, hinj.2, rfl⟩, rfl⟩
  · rintro ⟨σ, _, hσ, ⟨σs, hl, hinj, rfl⟩, rfl⟩
    exact ⟨σ :: σs, by simp [hl], List.forall_mem_cons.mpr ⟨hσ, hinj⟩, rfl⟩

theorem Blocks.of_copies {opss : List (List Op)} {σs : List (Nat → Nat)} (hl : σs.length = opss.length)
    (hinj : ∀ σ ∈ σs, Function.Injective σ) {ops : List Op}
    (h : Blocks ((opss.zip σs).map (fun p => p.1.map (Op.relabel p.2))) ops) : Blocks opss ops := by
  induction opss generalizing σs ops with
  | nil => simpa using h
  | cons o opss ih =>
    obtain ⟨σ, σs, rfl⟩ := List.exists_cons_of_length_eq_add_one hl
    rw [List.forall_mem_cons] at hinj
    obtain ⟨τ, tail, hτ, ht, rfl⟩ := blocks_cons_iff.mp h
    refine blocks_cons_iff.mpr ⟨τ ∘ σ, tail, hτ.comp hinj.1, ih (by simpa using hl) hinj.2 ht, ?_⟩
    simp [List.map_map, Function.comp_def, relabel_comp]

theorem mapM_trim_ops (cs ts : List Circuit) (opss : List (List Op))
    (hops : cs.map (fun c => gatesToOps c.gates) = opss.map some) (h : cs.mapM trimQubits = .ok ts) :
    ∃ σs : List (Nat → Nat), σs.length = opss.length ∧ (∀ σ ∈ σs, Function.Injective σ) ∧
      ts.map (fun c => gatesToOps c.gates) = (opss.zip σs).map (fun p => some (p.1.map (Op.relabel p.2))) := by
  rw [mapM_eq_ok] at h
  induction cs generalizing ts opss with
  | nil =>
    obtain rfl := List.map_eq_nil_iff.mp hops.symm
    obtain rfl := List.map_eq_nil_iff.mp h.symm
    exact ⟨[], rfl, by simp, rfl⟩
  | cons c cs ih =>
    obtain ⟨ops, opss, rfl, ho, hops⟩ := List.map_eq_cons_iff.mp hops.symm
    obtain ⟨t, ts, rfl, ht, h⟩ := List.map_eq_cons_iff.mp h.symm
    obtain ⟨σ, hσ, hg⟩ := trim_ops c t ops ho.symm ht.symm
    obtain ⟨σs, hl, hinj, hmap⟩ := ih ts opss hops.symm h.symm
    exact ⟨σ :: σs, by simp [hl], List.forall_mem_cons.mpr ⟨hσ, hinj⟩, by simp [hg, hmap]⟩

theorem range_shift_nodup (w k : Nat) : ((List.range w).map (· + k)).Nodup :=
  List.nodup_range.map (fun _ _ => Nat.add_right_cancel)

/-- the `foldlM` in the hypothesis is the loop of `Circuit.stack` over the trimmed circuits, its body copied from there -/
theorem stack_fold_ops :
    ∀ (ts : List Circuit) (blocks : List (List Op)) (acc r : Circuit) (accOps : List Op),
      ts.map (fun c => gatesToOps c.gates) = blocks.map some → gatesToOps acc.gates = some accOps →
      ts.foldlM (fun (acc : Circuit) (c : Circuit) => do
        let c' ← c.reindexQubits ((List.range c.width).map (· + acc.width))
        acc.add c') acc = .ok r →
      ∃ σs : List (Nat → Nat), σs.length = blocks.length ∧ (∀ σ ∈ σs, Function.Injective σ) ∧
        gatesToOps r.gates = some (accOps ++ ((blocks.zip σs).map (fun p => p.1.map (Op.relabel p.2))).flatten) := by
  intro ts blocks acc r accOps hb hacc h
  induction ts generalizing blocks acc accOps with
  | nil =>
    obtain rfl := List.map_eq_nil_iff.mp hb.symm
    cases h
    exact ⟨[], rfl, by simp, by simpa using hacc⟩
  | cons c rest ih =>
    obtain ⟨ops, blocks, rfl, ho, hb⟩ := List.map_eq_cons_iff.mp hb.symm
    simp only [List.foldlM_cons, bind_eq_ok] at h
    obtain ⟨acc1, ⟨c', h1, h2⟩, h⟩ := h
    obtain ⟨σ, hσ, hg⟩ := reindex_ops c c' _ (range_shift_nodup c.width acc.width) ops ho.symm h1
    have hg1 := Tangelo.gatesToOps_append hacc hg
    rw [← Circuit.gates_ofGates h2] at hg1
    obtain ⟨σs, hl, hinj, hr⟩ := ih blocks acc1 _ hb.symm hg1 h
    exact ⟨σ :: σs, by simp [hl], List.forall_mem_cons.mpr ⟨hσ, hinj⟩, by simp [hr]⟩

/-- **`stack`**: the stacked circuit is, block after block, a relabelled copy of each input circuit: there are
    injective relabellings σ₁ … σₘ of qubit labels such that its operation list is the concatenation of the
    operation lists of the inputs relabelled by σᵢ; by `relabel_semOps` each block acts on the qubits σᵢ sends it to
    exactly as the corresponding input acts on its own (that different blocks are sent to disjoint qubits is not
    part of the statement) -/
theorem stack_sem (cs : List Circuit) (r : Circuit) (opss : List (List Op))
    (hops : cs.map (fun c => gatesToOps c.gates) = opss.map some) (h : Circuit.stack cs = .ok r) :
    ∃ ops, gatesToOps r.gates = some ops ∧ Blocks opss ops := by
  unfold Circuit.stack at h
  cases cs with
  | nil =>
    obtain rfl := List.map_eq_nil_iff.mp hops.symm
    cases h
    exact ⟨[], rfl, [], rfl, by simp, rfl⟩
  | cons c0 crest =>
    simp only [bind_eq_ok] at h
    obtain ⟨trimmed, hm, h⟩ := h
    -- first every circuit is trimmed (σas), then each but the first is shifted above the ones before it (σbs)
    obtain ⟨σas, hla, hinja, hmapa⟩ := mapM_trim_ops _ trimmed opss hops hm
    obtain ⟨ops0, opss, rfl, -, -⟩ := List.map_eq_cons_iff.mp hops.symm
    obtain ⟨σ0, σas, rfl⟩ := List.exists_cons_of_length_eq_add_one hla
    obtain ⟨first, rest, rfl, h0, hrest⟩ := List.map_eq_cons_iff.mp hmapa
    rw [List.forall_mem_cons] at hinja
    obtain ⟨σbs, hlb, hinjb, hr⟩ := stack_fold_ops rest _ first r _ (by rw [hrest, List.map_map]; rfl) h0 h
    exact ⟨_, hr, blocks_cons_iff.mpr ⟨σ0, _, hinja.1,
      Blocks.of_copies (by simpa using hla) hinja.2 ⟨σbs, hlb, hinjb, rfl⟩, rfl⟩⟩

/-! ## `split`: with disjoint groups covering every gate, gates only cross gates of other groups -/

/-- what `split` needs from the qubit groups it computes: every gate lies inside one group, groups are pairwise disjoint -/
structure GroupsOK (ent : List (List Nat)) (gates : List Gate) : Prop where
  cover : ∀ g ∈ gates, ∃ (i : Nat) (s : List Nat), ent[i]? = some s ∧ ∀ q ∈ g.qubits, q ∈ s
  disjoint : ∀ (i j : Nat) (s t : List Nat), i ≠ j → ent[i]? = some s → ent[j]? = some t → ∀ q ∈ s, q ∉ t

theorem firstGroup_some (g : Gate) (k : Nat) (ent : List (List Nat)) (i : Nat) (h : firstGroup g k ent = some i) :
    k ≤ i ∧ ∃ s, ent[i - k]? = some s ∧ ∃ q ∈ g.qubits, q ∈ s := by
  rw [firstGroup_eq_findIdx?, Option.map_eq_some_iff] at h
  obtain ⟨j, hj, rfl⟩ := h
  obtain ⟨hlt, hp, -⟩ := List.findIdx?_eq_some_iff_getElem.mp hj
  obtain ⟨q, hq, hs⟩ := List.any_eq_true.mp hp
  exact ⟨Nat.le_add_left _ _, ent[j], by rw [Nat.add_sub_cancel]; exact List.getElem?_eq_getElem hlt, q, hq,
    List.contains_iff_mem.mp hs⟩

theorem firstGroup_complete (g : Gate) (k : Nat) (ent : List (List Nat)) (j : Nat) (s : List Nat) (hj : ent[j]? = some s)
    (q : Nat) (hq : q ∈ g.qubits) (hs : q ∈ s) : ∃ i, firstGroup g k ent = some i := by
  rw [firstGroup_eq_findIdx?]
  have h : (ent.findIdx? fun s => g.qubits.any fun q => s.contains q).isSome := by
    rw [List.findIdx?_isSome]
    exact List.any_eq_true.mpr ⟨s, List.mem_of_getElem? hj, List.any_eq_true.mpr ⟨q, hq, List.contains_iff_mem.mpr hs⟩⟩
  obtain ⟨i, hi⟩ := Option.isSome_iff_exists.mp h
  exact ⟨i + k, by rw [hi]; rfl⟩

/-- with groups that cover and are disjoint, the gate goes to *its* group -/
theorem firstGroup_eq (ent : List (List Nat)) (gates : List Gate) (hG : GroupsOK ent gates) (g : Gate) (hg : g ∈ gates)
    (hne : g.qubits ≠ []) : ∃ j s, firstGroup g 0 ent = some j ∧ ent[j]? = some s ∧ ∀ q ∈ g.qubits, q ∈ s := by
  obtain ⟨j, s, hj, hs⟩ := hG.cover g hg
  obtain ⟨q0, hq0⟩ := List.exists_mem_of_ne_nil _ hne
  obtain ⟨i, hi⟩ := firstGroup_complete g 0 ent j s hj q0 hq0 (hs q0 hq0)
  obtain ⟨_, s', hs', q, hq, hqs'⟩ := firstGroup_some g 0 ent i hi
  simp only [Nat.sub_zero] at hs'
  obtain rfl : i = j := Classical.not_not.mp fun hne' => hG.disjoint i j s' s hne' hs' hj q hqs' (hs q hq)
  exact ⟨i, s, hi, hj, hs⟩

theorem ops_mem_gate (gs : List Gate) (os : List Op) (h : gatesToOps gs = some os) (o' : Op) (ho' : o' ∈ os) :
    ∃ g' ∈ gs, g'.toOp = some o' :=
  exists_of_map_eq_map (gatesToOps_eq_some_iff.mp h) ho'

theorem flatten_set {α : Type} (L : List (List α)) (j : Nat) (X Lj : List α) (hj : L[j]? = some Lj) :
    (L.set j X).flatten = (L.take j).flatten ++ X ++ (L.drop (j + 1)).flatten ∧
    L.flatten = (L.take j).flatten ++ Lj ++ (L.drop (j + 1)).flatten := by
  obtain ⟨hlt, -⟩ := List.getElem?_eq_some_iff.mp hj
  constructor
  · rw [set_eq_take_cons_drop L j X hlt]; simp
  · conv_lhs => rw [eq_take_cons_drop L j Lj hj]
    simp

theorem semOps_flatten_set_append (k : Consts R) {L : List (List Op)} {j : Nat} {Lj : List Op} (hj : L[j]? = some Lj)
    (o : Op) (hd : ∀ o' ∈ (L.drop (j + 1)).flatten, ∀ q ∈ o.qubits, q ∉ o'.qubits) (ψ : State R) :
    semOps k (L.set j (Lj ++ [o])).flatten ψ = o.sem k (semOps k L.flatten ψ) := by
  obtain ⟨e1, e2⟩ := flatten_set L j (Lj ++ [o]) Lj hj
  simp only [e1, e2, List.append_assoc, semOps_append]
  exact (move_across k o _ hd _).symm

/-- invariant of the loop of `split` after the gates that denote `opsP`: one part per group; no part has a fixed
    width (`free`: so `addGate` accepts every gate); the gates of part `i` lie inside group `i` (`supp`); the parts read
    one after the other in group order implement `opsP` (`sem`) -/
structure SplitInv (k : Consts R) (ent : List (List Nat)) (cs : List Circuit) (opsP : List Op) : Prop where
  len : cs.length = ent.length
  free : ∀ c ∈ cs, c.fixed = Option.none
  supp : ∀ (i : Nat) (c : Circuit) (s : List Nat), cs[i]? = some c → ent[i]? = some s → ∀ g ∈ c.gates, ∀ q ∈ g.qubits, q ∈ s
  sem : ∃ opsL : List (List Op), cs.map (fun c => gatesToOps c.gates) = opsL.map some ∧
    ∀ ψ : State R, semOps k opsL.flatten ψ = semOps k opsP ψ

theorem splitInv_init (k : Consts R) (ent : List (List Nat)) :
    SplitInv k ent (ent.map (fun _ => Circuit.empty Option.none)) [] := by
  refine ⟨by simp, by simp [Circuit.empty], ?_, ent.map (fun _ => []), by simp [Circuit.empty, gatesToOps], ?_⟩
  · intro i c s hc _ g hg
    obtain ⟨_, _, rfl⟩ := List.mem_map.mp (List.mem_of_getElem? hc)
    cases hg
  · intro ψ
    rw [List.flatten_eq_nil_iff.mpr (by simp)]

theorem SplitInv.ops_supp {k : Consts R} {ent : List (List Nat)} {cs : List Circuit} {opsP : List Op}
    (hinv : SplitInv k ent cs opsP) {opsL : List (List Op)} (hmap : cs.map (fun c => gatesToOps c.gates) = opsL.map some)
    {i : Nat} {L : List Op} (hL : opsL[i]? = some L) : ∃ t, ent[i]? = some t ∧ ∀ o ∈ L, ∀ q ∈ o.qubits, q ∈ t := by
  obtain ⟨c, hc, hgc⟩ := getElem?_of_map_eq_map hmap.symm hL
  obtain ⟨hi, -⟩ := List.getElem?_eq_some_iff.mp hc
  refine ⟨ent[i]'(hinv.len ▸ hi), List.getElem?_eq_getElem _, fun o ho q hq => ?_⟩
  obtain ⟨g, hg, hto⟩ := ops_mem_gate _ _ hgc.symm o ho
  exact hinv.supp i c _ hc (List.getElem?_eq_getElem _) g hg q (Gate.toOp_qubits hto ▸ hq)

theorem placeGate_sound (k : Consts R) (ent : List (List Nat)) (gates : List Gate) (hG : GroupsOK ent gates)
    (cs cs' : List Circuit) (opsP : List Op) (g : Gate) (o : Op) (hg : g ∈ gates) (ho : g.toOp = some o)
    (hinv : SplitInv k ent cs opsP) (h : placeGate ent cs g = .ok cs') :
    SplitInv k ent cs' (opsP ++ [o]) := by
  obtain ⟨j, s, hfg, hsj, hsub⟩ := firstGroup_eq ent gates hG g hg (Gate.qubits_ne_nil_of_toOp ho)
  obtain ⟨opsL, hmap, hsem⟩ := hinv.sem
  -- the gate goes to the end of part `j`, which accepts it
  obtain ⟨hjlt, -⟩ := List.getElem?_eq_some_iff.mp hsj
  rw [← hinv.len] at hjlt
  have hcj := List.getElem?_eq_getElem hjlt
  have hfree := hinv.free _ (List.getElem_mem hjlt)
  simp only [placeGate, hfg, hcj, addGate, addGateBad_of_none g hfree, Bool.false_eq_true, if_false] at h
  cases h
  obtain ⟨Lj, hLj, hgj⟩ := getElem?_of_map_eq_map hmap hcj
  refine ⟨by simp [hinv.len], ?_, ?_, opsL.set j (Lj ++ [o]), ?_, fun ψ => ?_⟩
  · intro c hc
    rcases List.mem_or_eq_of_mem_set hc with e | rfl
    · exact hinv.free c e
    · exact hfree
  · intro i c s' hc hs' g' hg' q hq
    rw [List.getElem?_set] at hc
    split at hc
    · subst i
      cases hc
      cases hsj.symm.trans hs'
      rcases List.mem_append.mp hg' with e | e
      · exact hinv.supp j _ s hcj hsj g' e q hq
      · cases List.mem_singleton.mp e; exact hsub q hq
    · exact hinv.supp i c s' hc hs' g' hg' q hq
  · rw [List.map_set, List.map_set, hmap]
    congr 1
    exact Tangelo.gatesToOps_append hgj (by simp [ho])
  · -- `o` commutes with the later parts: they live in other groups, and groups are disjoint
    rw [semOps_flatten_set_append k hLj o ?_ ψ, hsem, semOps_append]; rfl
    intro o' ho' q hq hq'
    obtain ⟨L', hL', ho'L⟩ := List.mem_flatten.mp ho'
    obtain ⟨m, hm⟩ := List.mem_iff_getElem?.mp hL'
    rw [List.getElem?_drop] at hm
    obtain ⟨t, ht, hsupp⟩ := hinv.ops_supp hmap hm
    exact hG.disjoint j (j + 1 + m) s t (by omega) hsj ht q (hsub q (Gate.toOp_qubits ho ▸ hq)) (hsupp o' ho'L q hq')

theorem split_fold_sound (k : Consts R) (ent : List (List Nat)) (gates : List Gate) (hG : GroupsOK ent gates) :
    ∀ (suf : List Gate) (cs cs' : List Circuit) (opsP opsS : List Op), (∀ g ∈ suf, g ∈ gates) → gatesToOps suf = some opsS →
      SplitInv k ent cs opsP → suf.foldlM (placeGate ent) cs = .ok cs' → SplitInv k ent cs' (opsP ++ opsS) := by
  intro suf cs cs' opsP opsS hmem hs hinv h
  exact foldlM_gates_inv (I := SplitInv k ent)
    (fun s s' g o done hg ho hI hp => placeGate_sound k ent gates hG s s' done g o (hmem g hg) ho hI hp) hs hinv h

/-- **`split`** (without trimming): if the qubit groups the code computes cover every gate and are pairwise disjoint
    (`GroupsOK`, which `entangled_groupsOK` proves: `split_sem_full`), then the parts, executed one after the other,
    implement exactly the operation of the original circuit: each gate was moved only across gates of
    other groups, with which it commutes. Every part only touches the qubits of its group. -/
theorem split_sem (k : Consts R) (c : Circuit) (parts : List Circuit) (ops : List Op)
    (hG : GroupsOK c.entangledIndices c.gates) (h1 : gatesToOps c.gates = some ops) (h2 : c.split false = .ok parts) :
    ∃ opsL : List (List Op), parts.map (fun p => gatesToOps p.gates) = opsL.map some ∧
      (∀ ψ : State R, semOps k opsL.flatten ψ = semOps k ops ψ) ∧
      ∀ (i : Nat) (p : Circuit) (s : List Nat), parts[i]? = some p → c.entangledIndices[i]? = some s →
        ∀ g ∈ p.gates, ∀ q ∈ g.qubits, q ∈ s := by
  simp only [Circuit.split, bind_eq_ok, Bool.false_eq_true, if_false, pure_eq_ok] at h2
  obtain ⟨cs, hf, rfl⟩ := h2
  have := split_fold_sound k _ _ hG c.gates _ cs [] ops (fun g hg => hg) h1 (splitInv_init k _) hf
  obtain ⟨opsL, hm, hs⟩ := this.sem
  exact ⟨opsL, hm, by simpa using hs, this.supp⟩

theorem cover_getElem? {ent : List (List Nat)} {gates : List Gate} (h : ∀ g ∈ gates, ∃ s ∈ ent, ∀ q ∈ g.qubits, q ∈ s)
    (g : Gate) (hg : g ∈ gates) : ∃ (i : Nat) (s : List Nat), ent[i]? = some s ∧ ∀ q ∈ g.qubits, q ∈ s :=
  let ⟨s, hs, hq⟩ := h g hg
  let ⟨i, hi⟩ := List.mem_iff_getElem?.mp hs
  ⟨i, s, hi, hq⟩

theorem groupsOkB_sound (ent : List (List Nat)) (gates : List Gate) (h : groupsOkB ent gates = true) : GroupsOK ent gates := by
  simp only [groupsOkB, Bool.and_eq_true, List.all_eq_true, List.any_eq_true, List.mem_range, Bool.or_eq_true, beq_iff_eq,
    Bool.not_eq_true', List.contains_eq_mem, decide_eq_true_eq, decide_eq_false_iff_not] at h
  obtain ⟨hc, hd⟩ := h
  constructor
  · exact cover_getElem? hc
  · intro i j s t hij hs ht q hq
    obtain ⟨hi, -⟩ := List.getElem?_eq_some_iff.mp hs
    obtain ⟨hj, -⟩ := List.getElem?_eq_some_iff.mp ht
    rcases hd i hi j hj with e | e
    · exact absurd e hij
    · simp only [List.getD_eq_getElem?_getD, hs, ht, Option.getD_some] at e
      exact e q hq

/-- two entangled pairs interleaved with each other are split into two parts -/
example : ∃ c parts, Circuit.ofGates [⟨"CNOT", [1], some [0], .none, false⟩, ⟨"CNOT", [3], some [2], .none, false⟩,
      ⟨"H", [0], none, .none, false⟩, ⟨"H", [3], none, .none, false⟩] none = .ok c ∧
    groupsOkB c.entangledIndices c.gates = true ∧ c.split false = .ok parts ∧ parts.map (·.gates.length) = [2, 2] := by
  refine ⟨_, _, rfl, by decide, rfl, by decide⟩

/-! ## `get_entangled_indices` returns pairwise disjoint groups that cover every gate -/

def Disj (s t : List Nat) : Prop := ∀ x ∈ s, x ∉ t
theorem Disj.symm {s t : List Nat} (h : Disj s t) : Disj t s := fun x hx hs => h x hs hx

/-- the test of `absorb` -/
def interB (t q : List Nat) : Bool := t.any (fun x => q.contains x)
theorem interB_iff (t q : List Nat) : interB t q = true ↔ ∃ x ∈ t, x ∈ q := by simp [interB]
theorem interB_false_iff (t q : List Nat) : interB t q = false ↔ Disj t q := by
  rw [← Bool.not_eq_true, interB_iff]; simp [Disj]

theorem mem_setUnion (qs q : List Nat) (x : Nat) : x ∈ qs.foldl setInsert q ↔ x ∈ qs ∨ x ∈ q := mem_foldl_setInsert qs q x

theorem interB_setUnion {qs t : List Nat} (hd : Disj qs t) (q : List Nat) : interB t (qs.foldl setInsert q) = interB t q := by
  rw [Bool.eq_iff_iff, interB_iff, interB_iff]
  refine exists_congr fun x => and_congr_right fun hx => ?_
  rw [mem_setUnion, or_iff_right (fun h => hd x h hx)]

/-- the inner loop of `get_entangled_indices`: it takes out exactly the groups that meet `q` and adds their qubits to `q` -/
theorem absorb_fold (L : List (List Nat)) (hL : L.Pairwise Disj) (q : List Nat) (e : List (List Nat)) :
    (∀ x, x ∈ (L.foldl absorb (q, e)).1 ↔ x ∈ q ∨ ∃ t ∈ L, interB t q = true ∧ x ∈ t) ∧
    (L.foldl absorb (q, e)).2 = e.filter (fun t => !(L.contains t && interB t q)) := by
  induction L generalizing q e with
  | nil => simp
  | cons qs rest ih =>
    obtain ⟨hqs, hrest⟩ := List.pairwise_cons.mp hL
    rw [List.foldl_cons, absorb, ← interB]
    cases hi : interB qs q
    · obtain ⟨h1, h2⟩ := ih hrest q e
      refine ⟨fun x => by simp [h1, hi], ?_⟩
      rw [if_neg Bool.false_ne_true, h2]
      refine List.filter_congr fun t _ => ?_
      -- `qs` does not meet `q`, so it stays whether or not it occurs in `rest` as well
      by_cases hts : t = qs <;> simp [hts, hi]
    · -- the groups of `rest` are disjoint from `qs`, so they meet the enlarged `q` iff they meet `q`
      have hmeet : ∀ t ∈ rest, interB t (qs.foldl setInsert q) = interB t q := fun t ht => interB_setUnion (hqs t ht) q
      obtain ⟨h1, h2⟩ := ih hrest (qs.foldl setInsert q) (e.filter (· != qs))
      rw [if_pos rfl]
      refine ⟨fun x => ?_, ?_⟩
      · have hex : (∃ t ∈ rest, interB t (qs.foldl setInsert q) = true ∧ x ∈ t) ↔ ∃ t ∈ rest, interB t q = true ∧ x ∈ t :=
          exists_congr fun t => and_congr_right fun ht => by rw [hmeet t ht]
        simp only [h1, hex, mem_setUnion, List.mem_cons, exists_eq_or_imp, hi, true_and]
        rw [or_comm (a := x ∈ qs), or_assoc]
      · rw [h2, List.filter_filter]
        refine List.filter_congr fun t _ => ?_
        -- `qs` goes on both sides (taken out at this step; meets `q`), a group of `rest` goes iff it meets `q`
        -- (`hmeet`), any other group stays
        by_cases hts : t = qs <;> by_cases htr : t ∈ rest <;> simp [hts, htr, hi, hmeet]

/-- invariant of `get_entangled_indices` after the gates `done`: groups pairwise disjoint, non-empty, and every gate
    inside one group -/
structure EntInv (ent : List (List Nat)) (done : List Gate) : Prop where
  pair : ent.Pairwise Disj
  nonempty : ∀ s ∈ ent, s ≠ []
  cover : ∀ g ∈ done, ∃ s ∈ ent, ∀ q ∈ g.qubits, q ∈ s

theorem mem_setOfList (l : List Nat) (x : Nat) : x ∈ setOfList l ↔ x ∈ l := by
  simp [setOfList, mem_foldl_setInsert]

theorem pairwise_mem_disj (ent : List (List Nat)) (hp : ent.Pairwise Disj) (s t : List Nat) (hs : s ∈ ent) (ht : t ∈ ent)
    (hne : s ≠ t) : Disj s t :=
  haveI : Std.Symm Disj := ⟨fun _ _ => Disj.symm⟩
  hp.forall hs ht hne

/-- one step of `get_entangled_indices`: the groups that share a qubit with the gate are taken out, and their union
    with the gate's qubits becomes the last group -/
theorem entStep_eq {ent : List (List Nat)} (hp : ent.Pairwise Disj) (g : Gate) :
    ∃ new, entStep ent g = ent.filter (fun t => !interB t (setOfList g.qubits)) ++ [new] ∧
      ∀ x, x ∈ new ↔ x ∈ g.qubits ∨ ∃ t ∈ ent, interB t (setOfList g.qubits) = true ∧ x ∈ t := by
  obtain ⟨h1, h2⟩ := absorb_fold ent.reverse (List.pairwise_reverse.mpr (hp.imp Disj.symm)) (setOfList g.qubits) ent
  refine ⟨_, congrArg (· ++ _) (h2.trans (List.filter_congr fun t ht => by simp [ht])), fun x => ?_⟩
  rw [h1, mem_setOfList]
  simp only [List.mem_reverse]

theorem entStep_inv (ent : List (List Nat)) (done : List Gate) (g : Gate) (hg : g.qubits ≠ []) (h : EntInv ent done) :
    EntInv (entStep ent g) (done ++ [g]) := by
  obtain ⟨new, e, hnew⟩ := entStep_eq h.pair g
  rw [e]
  have hkeep : ∀ s, s ∈ ent.filter (fun t => !interB t (setOfList g.qubits)) ↔ s ∈ ent ∧ interB s (setOfList g.qubits) = false := by
    simp [List.mem_filter]
  refine ⟨List.pairwise_append.mpr ⟨h.pair.filter _, List.pairwise_singleton _ _, fun s hs t ht => ?_⟩, fun s hs => ?_,
    fun g' hg' => ?_⟩
  · -- a group that is kept shares no qubit with the gate nor with an absorbed group
    obtain ⟨hse, hsi⟩ := (hkeep s).mp hs
    cases List.mem_singleton.mp ht
    intro x hx hxn
    rcases (hnew x).mp hxn with hxg | ⟨t, ht, hti, hxt⟩
    · exact (interB_false_iff s _).mp hsi x hx ((mem_setOfList _ _).mpr hxg)
    · exact pairwise_mem_disj ent h.pair s t hse ht (fun e => by rw [e, hti] at hsi; cases hsi) x hx hxt
  · rcases List.mem_append.mp hs with e1 | e1
    · exact h.nonempty s ((hkeep s).mp e1).1
    · cases List.mem_singleton.mp e1
      obtain ⟨q0, hq0⟩ := List.exists_mem_of_ne_nil _ hg
      exact List.ne_nil_of_mem ((hnew q0).mpr (.inl hq0))
  · rcases List.mem_append.mp hg' with e1 | e1
    · obtain ⟨s, hs, hsub⟩ := h.cover g' e1
      cases hi : interB s (setOfList g.qubits)
      · exact ⟨s, List.mem_append_left _ ((hkeep s).mpr ⟨hs, hi⟩), hsub⟩
      · exact ⟨new, by simp, fun q hq => (hnew q).mpr (.inr ⟨s, hs, hi, hsub q hq⟩)⟩
    · cases List.mem_singleton.mp e1
      exact ⟨new, by simp, fun q hq => (hnew q).mpr (.inl hq)⟩

theorem entangled_inv (gs : List Gate) (hq : ∀ g ∈ gs, g.qubits ≠ []) :
    ∀ (ent : List (List Nat)) (done : List Gate), EntInv ent done → EntInv (gs.foldl entStep ent) (done ++ gs) := by
  induction gs with
  | nil => intro ent done h; simpa using h
  | cons g rest ih =>
    intro ent done h
    rw [List.forall_mem_cons] at hq
    simpa using ih hq.2 (entStep ent g) (done ++ [g]) (entStep_inv ent done g hq.1 h)

/-- **`get_entangled_indices` is a partition**: for every circuit whose gates touch at least one qubit each, the groups
    it returns are pairwise disjoint and every gate lies inside one of them - the hypothesis of `split_sem` always holds -/
theorem entangled_groupsOK (c : Circuit) (hq : ∀ g ∈ c.gates, g.qubits ≠ []) : GroupsOK c.entangledIndices c.gates := by
  have h : EntInv c.entangledIndices c.gates := by
    simpa [Circuit.entangledIndices] using entangled_inv c.gates hq [] [] ⟨List.Pairwise.nil, by simp, by simp⟩
  constructor
  · exact cover_getElem? h.cover
  · intro i j s t hij hs ht
    obtain ⟨hi, rfl⟩ := List.getElem?_eq_some_iff.mp hs
    obtain ⟨hj, rfl⟩ := List.getElem?_eq_some_iff.mp ht
    rcases Nat.lt_or_gt_of_ne hij with hlt | hgt
    · exact List.pairwise_iff_getElem.mp h.pair i j hi hj hlt
    · exact (List.pairwise_iff_getElem.mp h.pair j i hj hi hgt).symm

/-- **`split` without trimming, unconditionally**: the parts executed one after the other implement exactly the
    operation of the circuit, and each part only touches the qubits of its group -/
theorem split_sem_full (k : Consts R) (c : Circuit) (parts : List Circuit) (ops : List Op)
    (h1 : gatesToOps c.gates = some ops) (h2 : c.split false = .ok parts) :
    ∃ opsL : List (List Op), parts.map (fun p => gatesToOps p.gates) = opsL.map some ∧
      (∀ ψ : State R, semOps k opsL.flatten ψ = semOps k ops ψ) ∧
      ∀ (i : Nat) (p : Circuit) (s : List Nat), parts[i]? = some p → c.entangledIndices[i]? = some s →
        ∀ g ∈ p.gates, ∀ q ∈ g.qubits, q ∈ s := by
  refine split_sem k c parts ops (entangled_groupsOK c fun g hg => ?_) h1 h2
  obtain ⟨o, -, hto⟩ := exists_of_map_eq_map (gatesToOps_eq_some_iff.mp h1).symm hg
  exact Gate.qubits_ne_nil_of_toOp hto.symm

/-- **`split` with trimming**: the untrimmed parts multiply to the circuit (`split_sem_full`), and every returned part is
    the corresponding untrimmed part relabelled by an injective map of qubit labels (so it acts on its compact register
    as that part acts on its group of qubits, `relabel_semOps`) -/
theorem split_trim_sem (k : Consts R) (c : Circuit) (parts : List Circuit) (ops : List Op)
    (h1 : gatesToOps c.gates = some ops) (h2 : c.split true = .ok parts) :
    ∃ (opsL : List (List Op)) (σs : List (Nat → Nat)), σs.length = opsL.length ∧ (∀ σ ∈ σs, Function.Injective σ) ∧
      (∀ ψ : State R, semOps k opsL.flatten ψ = semOps k ops ψ) ∧
      parts.map (fun p => gatesToOps p.gates) = (opsL.zip σs).map (fun p => some (p.1.map (Op.relabel p.2))) := by
  simp only [Circuit.split, bind_eq_ok, if_true] at h2
  obtain ⟨cs, hcs, htrim⟩ := h2
  obtain ⟨opsL, hm, hsem, -⟩ := split_sem_full k c cs ops h1 (by simp only [Circuit.split, hcs]; rfl)
  obtain ⟨σs, hl, hinj, hmap⟩ := mapM_trim_ops cs parts opsL hm htrim
  exact ⟨opsL, σs, hl, hinj, hsem, hmap⟩

/-- trimming a circuit on qubits 2 and 5 gives a circuit on 0 and 1 -/
example : ∃ c r, Circuit.ofGates [⟨"H", [2], none, .none, false⟩, ⟨"CNOT", [5], some [2], .none, false⟩] none = .ok c ∧
    c.trimQubits = .ok r ∧ r.gates = [⟨"H", [0], none, .none, false⟩, ⟨"CNOT", [1], some [0], .none, false⟩] := by
  refine ⟨_, _, rfl, rfl, by decide⟩

end Tangelo.C09
