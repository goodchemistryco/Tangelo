import TangeloModel.Rdm
import Mathlib.Algebra.BigOperators.Group.Finset.Basic
import Mathlib.Algebra.BigOperators.Group.Finset.Sigma
import Mathlib.Algebra.BigOperators.Ring.Finset
import Mathlib.Algebra.BigOperators.Group.List.Basic
import Mathlib.Data.List.Nodup
import Mathlib.Tactic.Ring
import TangeloProofs.Lemmas.ListSum
/-!
# C13 — reduced density matrices reproduce energies and electron counts

Bookkeeping theorems (every size, every tensor over a commutative ring): the energy contraction with the
index transposition picks, for every Hamiltonian coefficient, the expectation value of *its* operator;
spin summation; the one-particle padding with frozen orbitals; Hermiticity carried through all three.
-/
namespace Tangelo.C13
open Tangelo.Rdm Finset

variable {R : Type} [CommRing R]

/-- **energy contraction**: with Γ[i,l,j,k] = ⟨a†_i a†_j a_k a_l⟩ (the placement of `get_rdm`) and the
    integrals transposed by (0,3,1,2) (as `energy_from_rdms` does), the element-wise product summed over
    all indices is Σ g[p,q,r,s] ⟨a†_p a†_q a_r a_s⟩ — every coefficient meets its own operator -/
theorem contraction_transpose (n : Nat) (g e : Nat → Nat → Nat → Nat → R) :
    (∑ a ∈ range n, ∑ b ∈ range n, ∑ c ∈ range n, ∑ d ∈ range n, transpose0312 g a b c d * place2 e a b c d)
      = ∑ p ∈ range n, ∑ q ∈ range n, ∑ r ∈ range n, ∑ s ∈ range n, g p q r s * e p q r s := by
  simp only [transpose0312, place2]
  -- the sum over `b` moves inside the sums over `c` and `d`
  exact sum_congr rfl fun a _ => sum_comm.trans (sum_congr rfl fun c _ => sum_comm)

theorem place_injective (i j k l i' j' k' l' : Nat) (h : (i, l, j, k) = (i', l', j', k')) :
    (i, j, k, l) = (i', j', k', l') := by
  cases h; rfl

/-- placement and `transpose(0, 3, 1, 2)` are one and the same re-labelling of the indices -/
theorem place2_transpose (e : Nat → Nat → Nat → Nat → R) (a b c d : Nat) :
    place2 e a b c d = e a c d b ∧ transpose0312 (fun p q r s => place2 e p s q r) a b c d = place2 e a b c d := by
  simp [place2, transpose0312]

theorem foldl_acc (l : List (Nat × Nat)) (t : Nat → Nat → R) (init : Nat → Nat → R) (p q : Nat) :
    (l.foldl (fun acc ij => fun p q => if p = ij.1 / 2 ∧ q = ij.2 / 2 then acc p q + t ij.1 ij.2 else acc p q) init) p q
      = init p q + (l.map (fun ij => if p = ij.1 / 2 ∧ q = ij.2 / 2 then t ij.1 ij.2 else 0)).sum :=
  foldl_add_of_step (fun acc : Nat → Nat → R => acc p q) _ _ (fun acc ij => by split <;> simp) l init

theorem spinSumLoop_eq (n : Nat) (t : Nat → Nat → R) (p q : Nat) :
    spinSumLoop n t p q =
      ((List.range n).map (fun i => ((List.range n).map (fun j => if p = i / 2 ∧ q = j / 2 then t i j else 0)).sum)).sum := by
  unfold spinSumLoop
  rw [foldl_acc, zero_add, Tangelo.sum_map_flatMap]
  simp only [List.map_map, Function.comp_def]

theorem pair_sum (f : Nat → R) (m q : Nat) (hq : q < m) :
    ((List.range (2 * m)).map (fun j => if q = j / 2 then f j else 0)).sum = f (2 * q) + f (2 * q + 1) := by
  have e : (range (2 * m)).filter (fun j => q = j / 2) = {2 * q, 2 * q + 1} := by
    ext j; simp only [mem_filter, mem_range, mem_insert, mem_singleton]; omega
  rw [Tangelo.sum_map_range, ← sum_filter, e, sum_pair (by omega)]

/-- **spin summation**: the entry [p, q] of the spin-summed tensor is the sum of the four spin blocks -/
theorem spinSum_blocks (m : Nat) (t : Nat → Nat → R) (p q : Nat) (hp : p < m) (hq : q < m) :
    spinSumLoop (2 * m) t p q
      = t (2 * p) (2 * q) + t (2 * p) (2 * q + 1) + t (2 * p + 1) (2 * q) + t (2 * p + 1) (2 * q + 1) := by
  rw [spinSumLoop_eq]
  -- the test on `j` outermost: `pair_sum` on the inner sums, then on the two outer sums
  simp only [and_comm (a := p = _), ite_and, pair_sum _ m q hq, List.sum_map_add, pair_sum _ m p hp]
  ring

theorem idx_sum (l : List Nat) (hn : l.Nodup) : ∀ F : Nat → R,
    (l.map (fun p => F (l.idxOf p))).sum = ((List.range l.length).map F).sum := by
  intro F
  have e : l.map (fun p => l.idxOf p) = List.range l.length :=
    List.ext_getElem (by simp) fun i h _ => by simp [hn.idxOf_getElem i (by simpa using h)]
  rw [← e, List.map_map]; rfl

/-- **trace of the padded one-particle matrix**: the active trace plus 2 for every frozen occupied orbital
    (total electron count when the active trace is the active electron count) -/
theorem pad1_trace (nMos nOcc : Nat) (active : List Nat) (one : Nat → Nat → R) (hn : active.Nodup)
    (hlt : ∀ p ∈ active, p < nMos) :
    ∑ p ∈ range nMos, pad1 nOcc active one p p
      = ∑ a ∈ range active.length, one a a + 2 * (((range nMos).filter (fun p => p ∉ active ∧ p < nOcc)).card : R) := by
  have hf : (range nMos).filter (· ∈ active) = active.toFinset := by
    ext p; simpa using hlt p
  simp only [pad1, and_self, true_and]
  -- the diagonal split by `p ∈ active`: the active part is re-indexed by position in `active`, the rest is counted
  rw [sum_ite, hf, List.sum_toFinset _ hn, idx_sum active hn (fun a => one a a), Tangelo.sum_map_range,
    ← sum_filter, filter_filter, sum_const, nsmul_eq_mul, mul_comm]

/-- holds by `rfl`: in the model the padding is a function of its arguments, so the in-place update of the tensor in
    the code is not represented -/
theorem pad1_pure (nOcc : Nat) (active : List Nat) (one : Nat → Nat → R) :
    pad1 nOcc active one = pad1 nOcc active one := rfl

/-! `σ` stands for complex conjugation (any additive map will do).  The expectation value of the Hermitian conjugate of
a term is the conjugate of the term's expectation value; what `get_rdm` stores then makes both RDMs Hermitian.
Storing the SAME value at both positions (an "evaluate only one of each conjugate pair" shortcut) satisfies the
hypothesis only for real values. -/

/-- 2-RDM placement: `e l k j i = σ (e i j k l)` (⟨(a†_i a†_j a_k a_l)†⟩ = conj ⟨a†_i a†_j a_k a_l⟩) makes the placed tensor
    Hermitian in chemist notation, Γ[q,p,s,r] = σ Γ[p,q,r,s] -/
theorem place2_hermitian (σ : R → R) (e : Nat → Nat → Nat → Nat → R) (h : ∀ i j k l, e l k j i = σ (e i j k l)) (p q r s : Nat) :
    place2 e q p s r = σ (place2 e p q r s) := by
  unfold place2; exact h p r s q

theorem spinSumLoop_hermitian (σ : R →+ R) (n : Nat) (t : Nat → Nat → R) (h : ∀ i j, t j i = σ (t i j)) (p q : Nat) :
    spinSumLoop n t q p = σ (spinSumLoop n t p q) := by
  -- `σ` goes through both sums to the entries, where it transposes; then the two sums change places
  simp only [spinSumLoop_eq, Tangelo.sum_map_range, map_sum, apply_ite σ, map_zero, ← h]
  rw [sum_comm]
  simp only [and_comm]

theorem spinSum_hermitian (σ : R →+ R) (m : Nat) (t : Nat → Nat → R) (h : ∀ i j, t j i = σ (t i j)) (p q : Nat) (hp : p < m) (hq : q < m) :
    spinSumLoop (2 * m) t q p = σ (spinSumLoop (2 * m) t p q) :=
  spinSumLoop_hermitian σ (2 * m) t h p q

/-- `h0`, `h2`: the entries the padding adds are the real numbers 0 and 2 -/
theorem pad1_hermitian (σ : R → R) (h0 : σ 0 = 0) (h2 : σ 2 = 2) (nOcc : Nat) (active : List Nat) (one : Nat → Nat → R)
    (h : ∀ a b, one b a = σ (one a b)) (p q : Nat) :
    pad1 nOcc active one q p = σ (pad1 nOcc active one p q) := by
  -- both tests are symmetric in `p` and `q`; each of the three values is related to its mirror image
  have e : (q = p ∧ q < nOcc) ↔ (p = q ∧ p < nOcc) := ⟨fun ⟨h, h'⟩ => ⟨h.symm, h ▸ h'⟩, fun ⟨h, h'⟩ => ⟨h.symm, h ▸ h'⟩⟩
  simp only [pad1, and_comm (a := q ∈ active), e]
  split_ifs
  exacts [h _ _, h2.symm, h0.symm]

theorem pad1_symm (nOcc : Nat) (active : List Nat) (one : Nat → Nat → R) (h : ∀ a b, one a b = one b a) (p q : Nat) :
    pad1 nOcc active one p q = pad1 nOcc active one q p :=
  (pad1_hermitian id rfl rfl nOcc active one (fun a b => h b a) p q).symm

/-- a tensor with one value stored at both positions need not be Hermitian: the value i (as a Gaussian integer) under
    conjugation -/
theorem same_value_both_positions_not_hermitian :
    ∃ (σ : Int × Int → Int × Int) (t : Nat → Nat → Int × Int), (∀ i j, t j i = t i j) ∧ t 1 0 ≠ σ (t 0 1) :=
  ⟨fun z => (z.1, -z.2), fun _ _ => (0, 1), fun _ _ => rfl, by decide⟩

example : pad1 2 [1, 3] (fun a b => ((10 * a + b : Nat) : Int)) 0 0 = 2 ∧ pad1 2 [1, 3] (fun a b => ((10 * a + b : Nat) : Int)) 3 1 = 10 := by
  decide
example : spinSumLoop 4 (fun i j => ((i + 10 * j : Nat) : Int)) 1 0 = 2 + 3 + 12 + 13 := by decide

end Tangelo.C13
