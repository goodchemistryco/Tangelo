import TangeloModel.Sem
import TangeloProofs.CycRing
import TangeloProofs.Lemmas.SemBasic
import TangeloProofs.Lemmas.Isometry
import TangeloProofs.Lemmas.BasisChange
import Mathlib.Algebra.Group.Units.Basic
import Mathlib.Algebra.Group.Basic
import Mathlib.Tactic.Ring
import Mathlib.Tactic.NormNum
/-!
The semantic theorems are stated for an arbitrary commutative ring `R` with constants `k : Consts R` satisfying
`Consts.Laws k`; the model driver computes in `R = Cyc = ℚ(ζ₁₆)` with `cycConsts`. This file proves
`Consts.Laws cycConsts` (and the two further assumptions some theorems make, `Consts.StarLaws` and `HalfPi`), so those
theorems apply to what the driver runs. `zetaPow` and `ptPow` are integer powers of units of `Cyc` (`zetaU`, `ptU`), so
that additivity of `e` and its behaviour under conjugation follow from the laws of `zpow`.
-/
namespace Tangelo
open Cyc

namespace Cyc

theorem npow_eq_pow (a : Cyc) (n : Nat) : Cyc.npow a n = a ^ n := by
  induction n with
  | zero => rfl
  | succ n ih => rw [Cyc.npow, ih, pow_succ]

/-- ζ as a unit; its inverse is `star ζ`, which `star_zetaPow` uses -/
def zetaU : Cycˣ := ⟨zeta, star zeta, (mul_comm _ _).trans star_zeta_mul, star_zeta_mul⟩

/-- multiplication by ζ: every coefficient moves one place up, the last one comes to the front with its sign changed -/
def shift (z : Cyc) : Cyc := ⟨-z.c7, z.c0, z.c1, z.c2, z.c3, z.c4, z.c5, z.c6⟩

theorem zeta_mul (z : Cyc) : zeta * z = shift z := by
  cases z
  simp only [cyc, zeta, shift, mk.injEq]
  and_intros <;> ring

theorem zetaPowNat_mod (n : Nat) : zetaPowNat (n % 16) = zetaPowNat n := by
  unfold zetaPowNat
  rw [Nat.mod_mod]

/-- `zetaPowNat` is a table of sixteen one-hot vectors, each the shift of the one before; the kernel checks them one by
    one (with `zetaPowNat n * zeta` on the right it would multiply, at ten times the cost). -/
theorem zetaPowNat_step : ∀ n < 16, zetaPowNat ((n + 1) % 16) = shift (zetaPowNat n) := by decide +kernel

theorem zetaPowNat_eq_pow (n : Nat) : zetaPowNat n = zeta ^ n := by
  induction n with
  | zero => rfl
  | succ n ih =>
    rw [pow_succ', ← ih, zeta_mul, ← zetaPowNat_mod (n + 1), ← zetaPowNat_mod n, Nat.add_mod]
    exact zetaPowNat_step _ (Nat.mod_lt _ (by decide))

theorem zetaU_pow_sixteen : zetaU ^ 16 = 1 := Units.ext <| by
  show zeta ^ 16 = 1
  rw [← zetaPowNat_eq_pow]; rfl

theorem zetaPow_eq (n : Int) : zetaPow n = ((zetaU ^ n : Cycˣ) : Cyc) := by
  rw [zpow_eq_zpow_emod' n zetaU_pow_sixteen, ← Int.toNat_of_nonneg (Int.emod_nonneg n (by decide)), zpow_natCast,
    Units.val_pow_eq_pow_val]
  exact zetaPowNat_eq_pow _

theorem zetaPow_add (a b : Int) : zetaPow (a + b) = zetaPow a * zetaPow b := by
  rw [zetaPow_eq, zetaPow_eq, zetaPow_eq, zpow_add, Units.val_mul]

/-- a rational point of the unit circle as a unit of `Cyc` -/
def ptU (c s : Rat) (h : c * c + s * s = 1) : Cycˣ :=
  have hm : (⟨c, 0, 0, 0, s, 0, 0, 0⟩ : Cyc) * ⟨c, 0, 0, 0, -s, 0, 0, 0⟩ = 1 := by
    -- (c + s·i)(c − s·i) is the rational number c² + s²
    have e : (⟨c, 0, 0, 0, s, 0, 0, 0⟩ : Cyc) * ⟨c, 0, 0, 0, -s, 0, 0, 0⟩ = ofRat (c * c + s * s) := by
      simp only [cyc, mk.injEq]
      and_intros <;> ring
    rw [e, h]; rfl
  ⟨_, _, hm, (mul_comm _ _).trans hm⟩

theorem star_zpow_val (u : Cycˣ) (h : star (u : Cyc) = ↑u⁻¹) (k : Int) :
    star ((u ^ k : Cycˣ) : Cyc) = ((u ^ (-k) : Cycˣ) : Cyc) := by
  rw [← Units.coe_star, star_zpow, (Units.ext h : star u = u⁻¹), inv_zpow']

theorem star_zetaPow (n : Int) : star (zetaPow n) = zetaPow (-n) := by
  rw [zetaPow_eq, zetaPow_eq, star_zpow_val zetaU rfl]

end Cyc

namespace Ang

theorem ptPow_eq (c s : Rat) (h : c * c + s * s = 1) (k : Int) :
    ptPow c s k = ((Cyc.ptU c s h ^ k : Cycˣ) : Cyc) := by
  unfold ptPow
  cases k with
  | ofNat n =>
    simp only [Int.natAbs_natCast, Cyc.npow_eq_pow, Int.ofNat_eq_natCast, zpow_natCast,
      Units.val_pow_eq_pow_val]
    rfl
  | negSucc n =>
    have hk : Int.negSucc n < 0 := Int.negSucc_lt_zero n
    simp only [hk, if_true, Cyc.npow_eq_pow, zpow_negSucc, Int.natAbs_negSucc]
    rw [← inv_pow, Units.val_pow_eq_pow_val]
    rfl

theorem ptPow_add (c s : Rat) (h : c * c + s * s = 1) (a b : Int) :
    ptPow c s (a + b) = ptPow c s a * ptPow c s b := by
  rw [ptPow_eq c s h, ptPow_eq c s h, ptPow_eq c s h, zpow_add, Units.val_mul]

theorem star_ptPow (c s : Rat) (h : c * c + s * s = 1) (k : Int) : star (ptPow c s k) = ptPow c s (-k) := by
  rw [ptPow_eq c s h, ptPow_eq c s h, Cyc.star_zpow_val]
  -- left over: the hypothesis of `star_zpow_val`, the conjugate of `c + s·i` is its inverse `c − s·i`
  ext <;> simp only [cyc] <;> rfl

theorem ptPow_zero (c s : Rat) : ptPow c s 0 = 1 := rfl

theorem e_unfold (a : Ang) : e a =
    Cyc.zetaPow a.q * ptPow (3/5) (4/5) a.k0 * ptPow (4/5) (3/5) a.k1 * ptPow (12/13) (5/13) a.k2
      * ptPow (5/13) (12/13) a.k3 * ptPow (63999999/64000001) (16000/64000001) a.k4
      * ptPow (2249999/2250001) (3000/2250001) a.k5 := rfl

theorem e_add (a b : Ang) : e (a + b) = e a * e b := by
  rw [e_unfold, e_unfold a, e_unfold b]
  -- each atom lies on the unit circle: the side condition of `ptPow_add`
  simp (disch := norm_num) only [Ang.add_def, Ang.add, Cyc.zetaPow_add, ptPow_add]
  ring

/-- on the multiples of π/4 the atoms do not enter: e(nπ/4) = ζⁿ -/
theorem e_piQuarter (n : Int) : e (piQuarter n) = Cyc.zetaPow n := by
  rw [e_unfold]
  simp only [piQuarter, ptPow_zero, mul_one]

theorem star_e (a : Ang) : star (e a) = e (-a) := by
  rw [e_unfold, e_unfold (-a)]
  simp (disch := norm_num) only [star_mul', Cyc.star_zetaPow, star_ptPow, Ang.neg_def, Ang.neg]

end Ang

theorem cycConsts_laws : Consts.Laws cycConsts where
  i_sq := Cyc.I_mul_I
  rsqrt2_sq := Cyc.rsqrt2_sq
  two_half := Cyc.two_half
  e_zero := Ang.e_piQuarter 0
  e_add := Ang.e_add
  e_pi := Ang.e_piQuarter 4

theorem cycConsts_halfPi : HalfPi cycConsts := (Ang.e_piQuarter 2).trans (by decide +kernel)

theorem cycConsts_starLaws : Consts.StarLaws cycConsts where
  star_i := Cyc.star_I
  star_rsqrt2 := by decide +kernel
  star_half := by decide +kernel
  star_e := Ang.star_e

end Tangelo
