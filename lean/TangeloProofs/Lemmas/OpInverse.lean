import TangeloProofs.Lemmas.GateOps
import TangeloProofs.Lemmas.SemBasic
/-! `Op.inv` undoes the operation (`Op.inv_sem`); that `Gate.inverse` denotes it is `C09.gate_inverse_toOp`. -/
namespace Tangelo
variable {R : Type} [CommRing R]

/-- the inverse of an abstract operation, in the form `Gate.inverse` gives it: S and T come back as PHASE(−π/2), PHASE(−π/4),
    every other matrix and XX with the angle negated -/
def Op.inv : Op → Op
  | .one .S _ t cs => .one .PHASE (Ang.piQuarter (-2)) t cs
  | .one .T _ t cs => .one .PHASE (Ang.piQuarter (-1)) t cs
  | .one b θ t cs => .one b (-θ) t cs
  | .swap a b cs => .swap a b cs
  | .xx θ a b => .xx (-θ) a b

theorem Op.inv_one {b : Base} (hS : b ≠ .S) (hT : b ≠ .T) (θ : Ang) (t : Nat) (cs : List Nat) :
    (Op.one b θ t cs).inv = .one b (-θ) t cs := by
  cases b <;> first | rfl | contradiction

/-- the step of `C09.gate_inverse_toOp` through `baseOp`: `Gate.inverse` negates the angle and keeps a missing one -/
theorem Gate.baseOp_inv {b : Base} (hS : b ≠ .S) (hT : b ≠ .T) {t : Nat} {cs : List Nat} {p p' : Param} {o : Op}
    (hp : p = .none ∧ p' = .none ∨ ∃ a, p = .ang a ∧ p' = .ang (-a)) (h : baseOp b t cs p = some o) :
    baseOp b t cs p' = some o.inv := by
  obtain ⟨θ, rfl, hθ⟩ := baseOp_eq_some h
  rw [Op.inv_one hS hT]
  rcases hp with ⟨rfl, rfl⟩ | ⟨a, rfl, rfl⟩
  · rcases hθ with h | ⟨rfl, -, -⟩
    · cases h
    · rw [h, Ang.neg_zero']
  · rcases hθ with h | ⟨-, -, h⟩
    · cases h; rfl
    · exact absurd rfl (h a)

/-- the matrix in `(Op.one b θ t cs).inv` (`Op.inv_one_sem`) -/
def invMatrix (k : Consts R) : Base → Ang → M2 R
  | .S, _ => baseMatrix k .PHASE (Ang.piQuarter (-2))
  | .T, _ => baseMatrix k .PHASE (Ang.piQuarter (-1))
  | b, θ => baseMatrix k b (-θ)

theorem Op.inv_one_sem (k : Consts R) (b : Base) (θ : Ang) (t : Nat) (cs : List Nat) :
    (Op.one b θ t cs).inv.sem k = ctl cs (app1 (invMatrix k b θ) t) := by
  cases b <;> rfl

/-- the four rotations by `baseMatrix_add`, S and T as phase gates likewise, the other four are involutions -/
theorem base_inverse (k : Consts R) (L : k.Laws) (b : Base) (θ : Ang) :
    (invMatrix k b θ).mul (baseMatrix k b θ) = M2.one := by
  have rot : ∀ {b : Base} (a a' : Ang), b.parametrized = true → a + a' = 0 →
      (baseMatrix k b a').mul (baseMatrix k b a) = M2.one :=
    fun a a' hb h => by rw [baseMatrix_add k L hb, h, baseMatrix_zero k L hb]
  cases b
  -- for S and T the two angles are `piQuarter m` and `piQuarter (-m)`: their sum `piQuarter (m + -m)` is `0` by evaluation
  case S => rw [baseMatrix_S k L]; exact rot _ _ rfl (Ang.piQuarter_add _ _)
  case T => rw [baseMatrix_T k L]; exact rot _ _ rfl (Ang.piQuarter_add _ _)
  case RX | RY | RZ | PHASE => exact rot _ _ rfl (Ang.add_neg_cancel θ)
  all_goals simp only [invMatrix, baseMatrix, M2.mul, M2.one, M2.mk.injEq]
  case X | Z => and_intros <;> ring1
  case H => exact ⟨by linear_combination L.rsqrt2_sq, by ring1, by ring1, by linear_combination L.rsqrt2_sq⟩
  case Y => exact ⟨by linear_combination (-1 : R) * L.i_sq, by ring1, by ring1, by linear_combination (-1 : R) * L.i_sq⟩

omit [CommRing R] in
theorem ctl_swap_swap (cs : List Nat) (a b : Nat) (ha : a ∉ cs) (hb : b ∉ cs) (ψ : State R) :
    ctl cs (appSwap a b) (ctl cs (appSwap a b) ψ) = ψ := by
  funext x
  by_cases hc : cs.all (fun c => x c) = true
  · simp [ctl, hc, appSwap, all_swap_of_not_mem cs x a b ha hb, Bits.swap_swap]
  · simp [ctl, hc]

theorem xx_inverse (k : Consts R) (L : k.Laws) (θ : Ang) (a b : Nat) (ψ : State R) :
    appXX k (-θ) a b (appXX k θ a b ψ) = ψ := by
  funext x
  simp only [appXX, k.cosH_neg, k.misinH_neg, Bits.flip2_flip2]
  linear_combination (ψ x) * L.cos_sq_sub θ

theorem Op.inv_sem (k : Consts R) (L : k.Laws) (o : Op) (hwf : o.qubits.Nodup) (ψ : State R) :
    o.inv.sem k (o.sem k ψ) = ψ := by
  cases o with
  | one b θ t cs =>
    rw [Op.inv_one_sem, Op.sem, ctl_app1_app1 cs _ _ t (List.nodup_cons.mp hwf).1, base_inverse k L, ctl_app1_one]
  | swap a b cs =>
    simp only [Op.qubits, List.nodup_cons, List.mem_cons, not_or] at hwf
    simp only [Op.inv, Op.sem]
    exact ctl_swap_swap cs a b hwf.1.2 hwf.2.1 ψ
  | xx θ a b =>
    simp only [Op.inv, Op.sem]
    exact xx_inverse k L θ a b ψ

def invOps (ops : List Op) : List Op := (ops.map Op.inv).reverse

theorem invOps_sem (k : Consts R) (L : k.Laws) (ops : List Op) (hwf : ∀ o ∈ ops, o.qubits.Nodup) (ψ : State R) :
    semOps k (invOps ops) (semOps k ops ψ) = ψ :=
  foldl_inv_cancel _ Op.inv ops (fun o ho ψ => Op.inv_sem k L o (hwf o ho) ψ) ψ

end Tangelo
