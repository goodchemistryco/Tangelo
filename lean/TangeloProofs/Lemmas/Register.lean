import TangeloModel.Sim
import TangeloProofs.Lemmas.Prelude
import Mathlib.Algebra.BigOperators.Group.Finset.Basic
/-!
The `n`-qubit register: indices `i < 2ⁿ` and bit strings that vanish above `n` are the same thing (`bitsOf` and
`toIdx n` are mutually inverse between them, `trunc n` projects an arbitrary bit string to the register). A sum over
the register can be re-indexed by any involution of bit strings that maps the register to itself; every re-pairing
argument (isometry, adjoints) is an instance. An operation on qubits inside the register commutes with `trunc`
(`Op.sem_trunc`): it can be run on the table of `2ⁿ` amplitudes.
-/
namespace Tangelo
open Finset

def trunc (n : Nat) (x : Bits) : Bits := fun q => if q < n then x q else false

theorem trunc_lt {n q : Nat} (x : Bits) (h : q < n) : trunc n x q = x q := if_pos h

theorem toIdx_succ (n : Nat) (x : Bits) : toIdx (n + 1) x = 2 ^ n * (x n).toNat + toIdx n x := by
  simp only [toIdx, List.range_succ, List.foldl_append, List.foldl_cons, List.foldl_nil]
  cases x n <;> simp [Nat.add_comm]

theorem toIdx_lt (n : Nat) (x : Bits) : toIdx n x < 2 ^ n := by
  induction n with
  | zero => simp [toIdx]
  | succ n ih => rw [toIdx_succ, Nat.pow_succ]; cases x n <;> simp <;> omega

theorem testBit_toIdx (n : Nat) (x : Bits) (q : Nat) : (toIdx n x).testBit q = trunc n x q := by
  induction n with
  | zero => simp [toIdx, trunc]
  | succ n ih =>
    rw [toIdx_succ, Nat.testBit_two_pow_mul_add _ (toIdx_lt n x), ih, Nat.testBit_bool_toNat]
    simp only [trunc]
    rcases Nat.lt_trichotomy q n with h | rfl | h
    · simp [h, Nat.lt_succ_of_lt h]
    · simp
    · have h1 : ¬ q < n + 1 := by omega
      have h2 : q - n ≠ 0 := by omega
      simp [Nat.not_lt_of_gt h, h1, h2]

theorem bitsOf_toIdx (n : Nat) (x : Bits) : bitsOf (toIdx n x) = trunc n x :=
  funext (testBit_toIdx n x)

theorem trunc_bitsOf (n i : Nat) (h : i < 2 ^ n) : trunc n (bitsOf i) = bitsOf i := by
  funext q
  simp only [trunc, bitsOf, ite_eq_left_iff, Nat.not_lt]
  exact fun hq => (Nat.testBit_lt_two_pow (Nat.lt_of_lt_of_le h (Nat.pow_le_pow_right (by decide) hq))).symm

theorem bitsOf_injective (i j : Nat) (h : bitsOf i = bitsOf j) : i = j :=
  Nat.eq_of_testBit_eq (congrFun h)

theorem toIdx_bitsOf (n i : Nat) (h : i < 2 ^ n) : toIdx n (bitsOf i) = i :=
  bitsOf_injective _ _ (by rw [bitsOf_toIdx, trunc_bitsOf n i h])

theorem toIdx_eq_zero (n : Nat) (x : Bits) : toIdx n x = 0 ↔ ∀ q < n, x q = false := by
  constructor
  · intro h q hq
    rw [← trunc_lt x hq, ← testBit_toIdx, h, Nat.zero_testBit]
  · intro h
    refine Nat.eq_of_testBit_eq fun q => ?_
    rw [testBit_toIdx, Nat.zero_testBit, trunc]
    split
    · exact h q ‹_›
    · rfl

theorem sum_register_invol {M : Type} [AddCommMonoid M] (n : Nat) (τ : Bits → Bits) (hτ : ∀ x, τ (τ x) = x)
    (hreg : ∀ x, trunc n x = x → trunc n (τ x) = τ x) (f : Bits → M) :
    ∑ i ∈ range (2 ^ n), f (τ (bitsOf i)) = ∑ i ∈ range (2 ^ n), f (bitsOf i) := by
  -- the index of `τ xᵢ` is again below 2ⁿ and names the bit string `τ xᵢ`
  have key : ∀ i ∈ range (2 ^ n), bitsOf (toIdx n (τ (bitsOf i))) = τ (bitsOf i) := fun i hi => by
    rw [bitsOf_toIdx, hreg _ (trunc_bitsOf n i (mem_range.mp hi))]
  have inv : ∀ i ∈ range (2 ^ n), toIdx n (τ (bitsOf (toIdx n (τ (bitsOf i))))) = i := fun i hi => by
    rw [key i hi, hτ, toIdx_bitsOf n i (mem_range.mp hi)]
  exact sum_nbij' (fun i => toIdx n (τ (bitsOf i))) (fun i => toIdx n (τ (bitsOf i)))
    (fun _ _ => mem_range.mpr (toIdx_lt n _)) (fun _ _ => mem_range.mpr (toIdx_lt n _)) inv inv
    (fun i hi => by rw [key i hi])

theorem trunc_set (n : Nat) (x : Bits) (t : Nat) (b : Bool) (ht : t < n) : trunc n (x.set t b) = (trunc n x).set t b := by
  funext q
  by_cases hq : q = t <;> simp [trunc, Bits.set, hq, ht]

theorem trunc_flip (n : Nat) (x : Bits) (t : Nat) (ht : t < n) : trunc n (x.flip t) = (trunc n x).flip t := by
  funext q
  by_cases hq : q = t <;> simp [trunc, Bits.flip, hq, ht]

theorem trunc_swap (n : Nat) (x : Bits) (a b : Nat) (ha : a < n) (hb : b < n) : trunc n (x.swap a b) = (trunc n x).swap a b := by
  funext q
  by_cases h1 : q = a <;> by_cases h2 : q = b <;> simp_all [trunc, Bits.swap]

theorem trunc_all (n : Nat) (x : Bits) (cs : List Nat) (h : ∀ c ∈ cs, c < n) :
    cs.all (fun c => trunc n x c) = cs.all (fun c => x c) :=
  all_congr_of_mem fun c hc => trunc_lt x (h c hc)

theorem Op.sem_trunc {R : Type} [Add R] [Mul R] [Neg R] [Zero R] [One R] (k : Consts R) (n : Nat) (o : Op)
    (h : ∀ q ∈ o.qubits, q < n) (ψ : State R) :
    o.sem k (fun x => ψ (trunc n x)) = fun x => o.sem k ψ (trunc n x) := by
  funext x
  cases o with
  | one b θ t cs =>
    obtain ⟨ht, hcs⟩ := List.forall_mem_cons.mp h
    simp only [Op.sem, ctl, app1, trunc_all n x cs hcs, trunc_set n x t _ ht, trunc_lt x ht]
  | swap a b cs =>
    obtain ⟨ha, h⟩ := List.forall_mem_cons.mp h
    obtain ⟨hb, hcs⟩ := List.forall_mem_cons.mp h
    simp only [Op.sem, ctl, appSwap, trunc_all n x cs hcs, trunc_swap n x a b ha hb]
  | xx θ a b =>
    obtain ⟨ha, h⟩ := List.forall_mem_cons.mp h
    obtain ⟨hb, -⟩ := List.forall_mem_cons.mp h
    simp only [Op.sem, appXX, trunc_flip n _ b hb, trunc_flip n x a ha]

end Tangelo
