import TangeloModel.Sim
import TangeloProofs.Lemmas.Register
import TangeloProofs.CycRing
/-! The array simulator of the model driver refines the functional semantics `semOps`. -/
namespace Tangelo

theorem size_tabulate (n : Nat) (ψ : State Cyc) : (tabulate n ψ).size = 2 ^ n := Array.size_ofFn

theorem getD_tabulate (n : Nat) (ψ : State Cyc) {i : Nat} (h : i < 2 ^ n) : (tabulate n ψ).getD i 0 = ψ (bitsOf i) := by
  simp [tabulate, h]

theorem tabulate_congr (n : Nat) {φ χ : State Cyc} (h : ∀ i < 2 ^ n, φ (bitsOf i) = χ (bitsOf i)) :
    tabulate n φ = tabulate n χ :=
  congrArg Array.ofFn (funext fun i => h i i.isLt)

theorem lookup_tabulate (n : Nat) (ψ : State Cyc) : (tabulate n ψ).lookup n = fun x => ψ (trunc n x) :=
  funext fun x => by rw [SV.lookup, getD_tabulate n ψ (toIdx_lt n x), bitsOf_toIdx]

/-- a state transformer that does not look above the register can be run on the table -/
theorem tabulate_lookup (n : Nat) (F : State Cyc → State Cyc)
    (hF : ∀ ψ, F (fun x => ψ (trunc n x)) = fun x => F ψ (trunc n x)) (ψ : State Cyc) :
    tabulate n (F ((tabulate n ψ).lookup n)) = tabulate n (F ψ) := by
  rw [lookup_tabulate, hF]
  exact tabulate_congr n fun i hi => by rw [trunc_bitsOf n i hi]

theorem stepOp_tabulate (n : Nat) (o : Op) (h : ∀ q ∈ o.qubits, q < n) (ψ : State Cyc) :
    stepOp n (tabulate n ψ) o = tabulate n (o.sem cycConsts ψ) :=
  tabulate_lookup n _ (Op.sem_trunc cycConsts n o h) ψ

/-- the array simulator of the model driver, run on the tabulated state, gives the table of `semOps`: the theorems
    about `semOps` are theorems about what the driver computes -/
theorem simOps_tabulate (n : Nat) (ops : List Op) (h : ∀ o ∈ ops, ∀ q ∈ o.qubits, q < n) (ψ : State Cyc) :
    simOps n ops (tabulate n ψ) = tabulate n (semOps cycConsts ops ψ) :=
  (foldl_hom_of_forall _ (stepOp n) (tabulate n) ops (fun o ho φ => (stepOp_tabulate n o (h o ho) φ).symm) ψ).symm

/-- |0…0⟩ on `n` qubits, as a function on bit strings -/
def ket0 (n : Nat) : State Cyc := fun x => if toIdx n x = 0 then 1 else 0

theorem basisSV_zero (n : Nat) : basisSV n 0 = tabulate n (ket0 n) :=
  congrArg Array.ofFn (funext fun i => by rw [ket0, toIdx_bitsOf n i i.isLt])

/-- what the driver returns for a circuit run from |0…0⟩ -/
theorem simOps_from_zero (n : Nat) (ops : List Op) (h : ∀ o ∈ ops, ∀ q ∈ o.qubits, q < n) :
    simOps n ops (basisSV n 0) = tabulate n (semOps cycConsts ops (ket0 n)) := by
  rw [basisSV_zero, simOps_tabulate n ops h]
end Tangelo
