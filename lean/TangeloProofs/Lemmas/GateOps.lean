import TangeloModel.Circuit
import TangeloProofs.Lemmas.Prelude
/-!
  `Gate.toOp` is `shapeOf` (a table on names) followed by `shapeToOp` (which never looks at the name). Facts about the
  second half are proved from its graph `Gate.Reads`; a fact about particular names needs a row-by-row look at the
  table (here `shapeOf_ST` and `shapeOf_rotMerge`; `C09.supported_invertible` is the third).
  `gatesToOps gs = some os` says that `toOp` maps `gs` to `os` elementwise, so whatever commutes with `List.map`
  commutes with it.
-/
namespace Tangelo

namespace Gate

theorem baseOp_eq_some {b : Base} {t : Nat} {cs : List Nat} {p : Param} {o : Op} (h : baseOp b t cs p = some o) :
    ∃ θ, o = .one b θ t cs ∧ (p = .ang θ ∨ θ = 0 ∧ b.parametrized = false ∧ ∀ a, p ≠ .ang a) := by
  unfold baseOp at h
  split at h
  · exact ⟨_, by simpa using h.symm, .inl rfl⟩
  · rename_i hp
    split at h
    · cases h
    · exact ⟨0, by simpa using h.symm, .inr ⟨rfl, (Bool.not_eq_true _).mp ‹_›, fun a e => hp a e⟩⟩

theorem baseOp_parametrized {b : Base} (hb : b.parametrized = true) {t : Nat} {cs : List Nat} {p : Param} {o : Op}
    (h : baseOp b t cs p = some o) : ∃ a, p = .ang a ∧ o = .one b a t cs := by
  obtain ⟨θ, rfl, rfl | ⟨-, hb', -⟩⟩ := baseOp_eq_some h
  · exact ⟨θ, rfl, rfl⟩
  · rw [hb] at hb'; cases hb'

/-- the graph of `shapeToOp`: the fields each shape accepts and the operation it then yields -/
inductive Reads : Shape → List Nat → Option (List Nat) → Param → Op → Prop
  | one1 {b t p o} : baseOp b t [] p = some o → Reads (.one1 b) [t] none p o
  | oneC {b t cs p o} : baseOp b t cs p = some o → Reads (.oneC b) [t] (some cs) p o
  | swap {a b p} : Reads .swap [a, b] none p (.swap a b [])
  | cswap {a b cs p} : Reads .cswap [a, b] (some cs) p (.swap a b cs)
  | xx {a b θ} : Reads .xx [a, b] none (.ang θ) (.xx θ a b)

theorem shapeToOp_eq_some {sh : Shape} {tgt : List Nat} {ctl : Option (List Nat)} {p : Param} {o : Op} :
    shapeToOp sh tgt ctl p = some o ↔ Reads sh tgt ctl p o := by
  constructor
  · intro h
    unfold shapeToOp at h
    split at h
    · exact .one1 h
    · exact .oneC h
    · cases h; exact .swap
    · cases h; exact .cswap
    · cases h; exact .xx
    · cases h
  · rintro (h | h | _ | _ | _) <;> simp [shapeToOp, *]

theorem toOp_eq_some {g : Gate} {o : Op} :
    g.toOp = some o ↔ ∃ sh, shapeOf g.name = some sh ∧ Reads sh g.target g.control g.param o := by
  unfold toOp
  split <;> simp [*, shapeToOp_eq_some]

theorem Reads.qubits {sh : Shape} {tgt : List Nat} {ctl : Option (List Nat)} {p : Param} {o : Op}
    (h : Reads sh tgt ctl p o) : o.qubits = tgt ++ ctl.getD [] := by
  cases h with
  | one1 h | oneC h => obtain ⟨θ, rfl, -⟩ := baseOp_eq_some h; rfl
  | _ => rfl

theorem toOp_qubits {g : Gate} {o : Op} (h : g.toOp = some o) : o.qubits = g.qubits :=
  let ⟨_, _, h⟩ := toOp_eq_some.mp h; h.qubits

theorem qubits_ne_nil_of_toOp {g : Gate} {o : Op} (h : g.toOp = some o) : g.qubits ≠ [] := by
  rw [← toOp_qubits h]; cases o <;> simp [Op.qubits]

/-- for the gate `merge_rotations` writes back (`mergeStep`): a new angle, any `isVar` flag -/
theorem toOp_one_param {g : Gate} {b : Base} {θ : Ang} {t : Nat} {cs : List Nat} (h : g.toOp = some (.one b θ t cs))
    (a : Ang) (v : Bool) : ({ g with isVar := v, param := .ang a } : Gate).toOp = some (.one b a t cs) := by
  obtain ⟨nm, tgt, ctl, p, v0⟩ := g
  obtain ⟨sh, hs, h⟩ := toOp_eq_some.mp h
  refine toOp_eq_some.mpr ⟨sh, hs, ?_⟩
  cases h with
  | one1 h => obtain ⟨_, e, -⟩ := baseOp_eq_some h; cases e; exact .one1 rfl
  | oneC h => obtain ⟨_, e, -⟩ := baseOp_eq_some h; cases e; exact .oneC rfl

/-- S and T are the two names `Gate.inverse` does not keep (they come back as PHASE) -/
theorem shapeOf_ST {nm : String} {sh : Shape} (h : shapeOf nm = some sh) :
    (nm = "S" ↔ sh = .one1 .S) ∧ (nm = "T" ↔ sh = .one1 .T) ∧ sh ≠ .oneC .S ∧ sh ≠ .oneC .T := by
  unfold shapeOf at h
  split at h <;> cases h <;> simp

theorem shapeOf_rotMerge {nm : String} (h : Circuit.rotMergeSet.contains nm = true) :
    ∃ b, (shapeOf nm = some (.one1 b) ∨ shapeOf nm = some (.oneC b)) ∧ b.parametrized = true := by
  simp only [Circuit.rotMergeSet, Tables.rotMergeSet, List.contains_cons, List.contains_nil, Bool.or_false,
    Bool.or_eq_true, beq_iff_eq] at h
  rcases h with rfl | rfl | rfl | rfl | rfl | rfl | rfl | rfl <;>
    first | exact ⟨_, .inl rfl, rfl⟩ | exact ⟨_, .inr rfl, rfl⟩

theorem toOp_rotMerge {g : Gate} {o : Op} (hn : Circuit.rotMergeSet.contains g.name = true) (h : g.toOp = some o) :
    ∃ b a t cs, b.parametrized = true ∧ g.param = .ang a ∧ o = .one b a t cs := by
  obtain ⟨nm, tgt, ctl, p, v⟩ := g
  obtain ⟨sh, hs, h⟩ := toOp_eq_some.mp h
  obtain ⟨b, hsb, hb⟩ := shapeOf_rotMerge hn
  rcases hsb with e | e <;> cases hs.symm.trans e <;> rcases h with h | h <;>
    obtain ⟨a, rfl, rfl⟩ := baseOp_parametrized hb h <;> exact ⟨b, a, _, _, hb, rfl, rfl⟩

theorem inverse_eq_some {g g' : Gate} (h : g.inverse = some g') :
    g.name = "T" ∧ g' = { g with name := "PHASE", param := .ang (Ang.piQuarter (-1)) } ∨
    g.name = "S" ∧ g' = { g with name := "PHASE", param := .ang (Ang.piQuarter (-2)) } ∨
    g.name ≠ "T" ∧ g.name ≠ "S" ∧ ∃ p', g' = { g with param := p' } ∧
      (g.param = .none ∧ p' = .none ∨ ∃ a, g.param = .ang a ∧ p' = .ang (-a)) := by
  obtain ⟨nm, tgt, ctl, p, v⟩ := g
  simp only [inverse] at h
  split at h
  · cases h
  split at h
  · exact .inl ⟨beq_iff_eq.mp ‹_›, by simpa using h.symm⟩
  split at h
  · exact .inr (.inl ⟨beq_iff_eq.mp ‹_›, by simpa using h.symm⟩)
  refine .inr (.inr ⟨by simpa using ‹¬ (nm == "T") = true›, by simpa using ‹¬ (nm == "S") = true›, ?_⟩)
  split at h
  · exact ⟨.none, by simpa using h.symm, .inl ⟨rfl, rfl⟩⟩
  · exact ⟨_, by simpa using h.symm, .inr ⟨_, rfl, rfl⟩⟩
  · cases h

theorem inverse_qubits {g g' : Gate} (h : g.inverse = some g') : g'.qubits = g.qubits := by
  rcases inverse_eq_some h with ⟨-, rfl⟩ | ⟨-, rfl⟩ | ⟨-, -, p', rfl, -⟩ <;> rfl

end Gate

@[simp] theorem gatesToOps_nil : gatesToOps [] = some [] := rfl

@[simp] theorem gatesToOps_cons (g : Gate) (gs : List Gate) :
    gatesToOps (g :: gs) = g.toOp.bind fun o => (gatesToOps gs).map (o :: ·) := by
  cases h : g.toOp <;> cases h' : gatesToOps gs <;> simp [gatesToOps, h, h']

theorem gatesToOps_eq_some_iff {gs : List Gate} {os : List Op} :
    gatesToOps gs = some os ↔ gs.map Gate.toOp = os.map some := by
  induction gs generalizing os with
  | nil => cases os <;> simp
  | cons g gs ih => cases os <;> simp [Option.bind_eq_some_iff, ih]

theorem gatesToOps_length {gs : List Gate} {os : List Op} (h : gatesToOps gs = some os) : os.length = gs.length := by
  simpa using (congrArg List.length (gatesToOps_eq_some_iff.mp h)).symm

theorem gatesToOps_op_at {gs : List Gate} {os : List Op} (h : gatesToOps gs = some os) {i : Nat} {g : Gate}
    (hg : gs[i]? = some g) : ∃ o, os[i]? = some o ∧ g.toOp = some o :=
  getElem?_of_map_eq_map (gatesToOps_eq_some_iff.mp h) hg

theorem gatesToOps_gate_at {gs : List Gate} {os : List Op} (h : gatesToOps gs = some os) {i : Nat} {o : Op}
    (ho : os[i]? = some o) : ∃ g, gs[i]? = some g ∧ g.toOp = some o :=
  let ⟨g, hg, e⟩ := getElem?_of_map_eq_map (gatesToOps_eq_some_iff.mp h).symm ho; ⟨g, hg, e.symm⟩

theorem gatesToOps_append {xs ys : List Gate} {ox oy : List Op} (hx : gatesToOps xs = some ox)
    (hy : gatesToOps ys = some oy) : gatesToOps (xs ++ ys) = some (ox ++ oy) := by
  rw [gatesToOps_eq_some_iff] at *
  rw [List.map_append, List.map_append, hx, hy]

theorem gatesToOps_reverse {xs : List Gate} {ox : List Op} (hx : gatesToOps xs = some ox) :
    gatesToOps xs.reverse = some ox.reverse := by
  rw [gatesToOps_eq_some_iff] at *
  rw [List.map_reverse, List.map_reverse, hx]

theorem gatesToOps_replicate {gs : List Gate} {ops : List Op} (h : gatesToOps gs = some ops) (n : Nat) :
    gatesToOps (List.replicate n gs).flatten = some (List.replicate n ops).flatten := by
  rw [gatesToOps_eq_some_iff] at *
  rw [List.map_flatten, List.map_flatten, List.map_replicate, List.map_replicate, h]

theorem gatesToOps_filterMap {α : Type} {f : α → Option Gate} {g : α → Option Op}
    (h : ∀ a, (f a).map Gate.toOp = (g a).map some) (w : List α) :
    gatesToOps (w.filterMap f) = some (w.filterMap g) := by
  rw [gatesToOps_eq_some_iff, List.map_filterMap, List.map_filterMap]
  exact congrArg (List.filterMap · w) (funext h)

theorem gatesToOps_set {gs : List Gate} {os : List Op} (h : gatesToOps gs = some os) {g : Gate} {o : Op}
    (hg : g.toOp = some o) (i : Nat) : gatesToOps (gs.set i g) = some (os.set i o) := by
  rw [gatesToOps_eq_some_iff] at *
  rw [List.map_set, List.map_set, h, hg]

/-- a successful fold over a gate list, followed gate by gate on the operations read so far -/
theorem foldlM_gates_inv {σ ε : Type} {f : σ → Gate → Except ε σ} {I : σ → List Op → Prop} {gs : List Gate}
    (step : ∀ s s' g o done, g ∈ gs → g.toOp = some o → I s done → f s g = .ok s' → I s' (done ++ [o]))
    {ops : List Op} {s s' : σ} {done : List Op} (hops : gatesToOps gs = some ops) (h0 : I s done)
    (h : gs.foldlM f s = .ok s') : I s' (done ++ ops) := by
  refine foldlM_ok_induction (fun pre s => ∀ dn, pre.map Gate.toOp = dn.map some → I s (done ++ dn))
    (fun dn e => by obtain rfl := List.map_eq_nil_iff.mp e.symm; simpa using h0)
    (fun pre g s s' hg hpre hs dn e => ?_) h ops (gatesToOps_eq_some_iff.mp hops)
  rw [List.map_append, eq_comm, List.map_eq_append_iff] at e
  obtain ⟨d1, d2, rfl, e1, e2⟩ := e
  obtain ⟨o, rfl, ho⟩ := List.map_eq_singleton_iff.mp e2
  rw [← List.append_assoc]
  exact step s s' g o _ hg ho.symm (hpre d1 e1.symm) hs

end Tangelo
