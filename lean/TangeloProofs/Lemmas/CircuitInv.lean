import TangeloModel.Store
import TangeloProofs.Lemmas.CircuitShape
/-!
  The dictionaries and sets `add_gate` maintains, the invariant `Circuit.Inv` that ties them to the gate list, what
  `addGates` / `ofGates` build (`addGates_eq_ok`), and how `width` reads the index set. At the end `step_store`, the
  case split of `step` on which C11's statements about the store rest (the one lemma here that needs
  `TangeloModel.Store`). Core Lean only.
-/
namespace Tangelo
open Circuit

theorem lookupD_bump {α : Type} [DecidableEq α] (d : List (α × Nat)) (k k' : α) :
    lookupD (bump d k) k' = lookupD d k' + (if k = k' then 1 else 0) := by
  fun_induction bump d k <;> grind [lookupD]

theorem mem_setInsert (s : List Nat) (q x : Nat) : x ∈ setInsert s q ↔ x = q ∨ x ∈ s := by
  fun_induction setInsert s q <;> grind

theorem mem_foldl_setInsert (l s : List Nat) (x : Nat) : x ∈ l.foldl setInsert s ↔ x ∈ l ∨ x ∈ s := by
  induction l generalizing s with
  | nil => simp
  | cons a as ih => simp [ih, mem_setInsert, or_assoc, or_left_comm]

theorem setInsert_sorted (s : List Nat) (q : Nat) (hs : s.Pairwise (· < ·)) : (setInsert s q).Pairwise (· < ·) := by
  fun_induction setInsert s q with
  | case1 => simp
  | case2 x xs h =>
    refine List.pairwise_cons.mpr ⟨fun a ha => ?_, hs⟩
    rcases List.mem_cons.mp ha with rfl | e
    · exact h
    · exact Nat.lt_trans h (List.rel_of_pairwise_cons hs e)
  | case3 => exact hs
  | case4 x xs h1 h2 ih =>
    rw [List.pairwise_cons] at hs ⊢
    refine ⟨fun a ha => ?_, ih hs.2⟩
    rcases (mem_setInsert xs q a).mp ha with rfl | e
    · omega
    · exact hs.1 a e

theorem foldl_setInsert_sorted (l s : List Nat) (hs : s.Pairwise (· < ·)) : (l.foldl setInsert s).Pairwise (· < ·) :=
  List.foldlRecOn l _ hs fun s h a _ => setInsert_sorted s a h

/-- what `add_gate` keeps true of the metadata: `_qubit_indices` is a set and holds every qubit in use; `_gate_counts`,
    `_n_qubit_gate_counts` and `_variational_gates` are what a recomputation from the gate list gives. The model keeps
    `_variational_gates` as positions (`varIdx`); `varLt` says that none of them points outside the gate list, so that
    `varGates` loses no entry -/
structure Circuit.Inv (c : Circuit) : Prop where
  sorted : c.indices.Pairwise (· < ·)
  counts : ∀ nm : String, lookupD c.counts nm = c.gates.countP (fun g => g.name == nm)
  nq : ∀ k : Nat, lookupD c.nqCounts k = c.gates.countP (fun g => g.qubits.length == k)
  varLt : ∀ i ∈ c.varIdx, i < c.gates.length
  var : c.varGates = c.gates.filter (fun g => g.isVar)
  used : ∀ g ∈ c.gates, ∀ q ∈ g.qubits, q ∈ c.indices

theorem Circuit.inv_empty (n : Option Nat) : (Circuit.empty n).Inv := by
  constructor
  · simp only [Circuit.empty]
    split
    · exact List.pairwise_lt_range
    · simp
  all_goals simp [Circuit.empty, lookupD, Circuit.varGates]

theorem Circuit.addGate_eq_ok {c c' : Circuit} {g : Gate} :
    c.addGate g = .ok c' ↔ c.addGateBad g = false ∧ c.addGateCore g = c' := by
  unfold Circuit.addGate; cases c.addGateBad g <;> simp

/-- the range check looks at the fixed width only, which no gate changes -/
theorem Circuit.addGateBad_addGateCore (c : Circuit) (g g' : Gate) :
    (c.addGateCore g).addGateBad g' = c.addGateBad g' := rfl

theorem Circuit.addGates_eq_ok {c c' : Circuit} {gs : List Gate} :
    c.addGates gs = .ok c' ↔ (∀ g ∈ gs, c.addGateBad g = false) ∧ gs.foldl addGateCore c = c' := by
  induction gs generalizing c with
  | nil => simp [Circuit.addGates]
  | cons g gs ih =>
    cases hb : c.addGateBad g
    · simp [Circuit.addGates, Circuit.addGate, hb, ih, Circuit.addGateBad_addGateCore]
    · simp [Circuit.addGates, Circuit.addGate, hb]

theorem Circuit.gates_foldl (gs : List Gate) (c : Circuit) : (gs.foldl addGateCore c).gates = c.gates ++ gs := by
  induction gs generalizing c with
  | nil => simp
  | cons g gs ih => simp [ih, Circuit.addGateCore]

theorem Circuit.fixed_foldl (gs : List Gate) (c : Circuit) : (gs.foldl addGateCore c).fixed = c.fixed :=
  List.foldlRecOn (motive := fun x : Circuit => x.fixed = c.fixed) gs _ rfl fun _ h _ _ => h

theorem Circuit.mem_indices_foldl (gs : List Gate) (c : Circuit) (q : Nat) :
    q ∈ (gs.foldl addGateCore c).indices ↔ q ∈ c.indices ∨ ∃ g ∈ gs, q ∈ g.qubits := by
  induction gs generalizing c with
  | nil => simp
  | cons g gs ih => simp [ih, Circuit.addGateCore, mem_foldl_setInsert, or_assoc, or_comm]

theorem Circuit.Inv.addGateCore {c : Circuit} (hc : c.Inv) (g : Gate) : (c.addGateCore g).Inv := by
  unfold Circuit.addGateCore
  constructor
  · exact foldl_setInsert_sorted _ _ hc.sorted
  · intro nm
    simp [lookupD_bump, hc.counts nm, List.countP_append, List.countP_singleton]
  · intro k
    simp [lookupD_bump, hc.nq k, List.countP_append, List.countP_singleton]
  · intro i hi
    have := hc.varLt i
    rw [List.length_append, List.length_singleton]
    split at hi
    · rcases List.mem_append.mp hi with h1 | h1
      · exact Nat.lt_succ_of_lt (this h1)
      · simp at h1; omega
    · exact Nat.lt_succ_of_lt (this hi)
  · have hv := hc.var
    simp only [Circuit.varGates] at hv ⊢
    -- the recorded positions lie in the old gate list
    have hold : c.varIdx.filterMap (fun i => (c.gates ++ [g])[i]?) = c.varIdx.filterMap (fun i => c.gates[i]?) :=
      filterMap_congr fun i hi => List.getElem?_append_left (hc.varLt i hi)
    -- and the position recorded for a variational `g`, `c.gates.length`, holds `g` in `c.gates ++ [g]` (found by `simp`)
    cases hg : g.isVar <;> simp [List.filterMap_append, hold, hv, List.filter_append, hg]
  · intro g' hg' q hq
    rw [mem_foldl_setInsert]
    rcases List.mem_append.mp hg' with h1 | h1
    · exact .inr (hc.used g' h1 q hq)
    · cases List.mem_singleton.mp h1; exact .inl hq

theorem Circuit.Inv.foldl {c : Circuit} (hc : c.Inv) (gs : List Gate) : (gs.foldl Circuit.addGateCore c).Inv :=
  List.foldlRecOn gs _ hc fun _ h g _ => h.addGateCore g

theorem Circuit.inv_addGate {c c' : Circuit} {g : Gate} (hc : c.Inv) (h : c.addGate g = .ok c') : c'.Inv :=
  (Circuit.addGate_eq_ok.mp h).2 ▸ hc.addGateCore g

theorem Circuit.inv_ofGates {gs : List Gate} {n : Option Nat} {c : Circuit} (h : Circuit.ofGates gs n = .ok c) : c.Inv :=
  (Circuit.addGates_eq_ok.mp h).2 ▸ (Circuit.inv_empty n).foldl gs

/-- relabelling the qubits in place (`trim_qubits`, `reindex_qubits`) keeps the invariant, for any new index set that
    contains the image -/
theorem Circuit.inv_relabel (c : Circuit) (σ : Nat → Nat) (idx : List Nat) (hc : c.Inv)
    (hidx : ∀ g ∈ c.gates, ∀ q ∈ g.qubits, σ q ∈ idx) (hsorted : idx.Pairwise (· < ·)) :
    ({ c with gates := c.gates.map (Gate.relabel σ), indices := idx } : Circuit).Inv := by
  constructor
  · exact hsorted
  · intro nm
    simpa [List.countP_map, Function.comp_def] using hc.counts nm
  · intro k
    simpa [List.countP_map, Function.comp_def] using hc.nq k
  · simpa using hc.varLt
  · have hv := hc.var
    simp only [Circuit.varGates, List.getElem?_map, List.filter_map] at hv ⊢
    rw [← List.map_filterMap, hv]
    rfl
  · intro g' hg' q hq
    obtain ⟨g, hg, rfl⟩ := List.mem_map.mp hg'
    obtain ⟨q0, hq0, rfl⟩ := List.mem_map.mp (Gate.relabel_qubits σ g ▸ hq)
    exact hidx g hg q0 hq0

theorem Circuit.gates_ofGates {gs : List Gate} {n : Option Nat} {c : Circuit} (h : Circuit.ofGates gs n = .ok c) : c.gates = gs := by
  rw [← (Circuit.addGates_eq_ok.mp h).2, Circuit.gates_foldl]; rfl

theorem Circuit.addGateBad_of_none {c : Circuit} (g : Gate) (hf : c.fixed = Option.none) : c.addGateBad g = false := by
  simp [Circuit.addGateBad, hf]

/-! `n_qubits = 0` is falsy in Python (`Circuit.truthy`) and then nothing is checked: a fixed width bounds the qubits only
when it is `n + 1`. -/
theorem Circuit.addGateBad_of_lt {c : Circuit} {g : Gate} {n : Nat} (hf : c.fixed = some n)
    (h : ∀ q ∈ g.qubits, q < n) : c.addGateBad g = false := by
  simpa [Circuit.addGateBad, hf] using fun _ => h

theorem Circuit.lt_of_addGateBad {c : Circuit} {g : Gate} {n : Nat} (hf : c.fixed = some (n + 1))
    (h : c.addGateBad g = false) : ∀ q ∈ g.qubits, q < n + 1 := by
  simpa [Circuit.addGateBad, hf, Circuit.truthy] using h

theorem Circuit.width_pred_mem (c : Circuit) : c.width = 0 ∨ c.width - 1 ∈ c.indices := by
  unfold Circuit.width
  cases h : c.indices.getLast? with
  | none => exact .inl rfl
  | some m => exact .inr (List.mem_of_getLast? h)

theorem Circuit.lt_width {c : Circuit} (hs : c.indices.Pairwise (· < ·)) {q : Nat} (hq : q ∈ c.indices) : q < c.width := by
  obtain ⟨i, hi, rfl⟩ := List.mem_iff_getElem.mp hq
  have hne : c.indices ≠ [] := List.ne_nil_of_length_pos (by omega)
  rw [Circuit.width, List.getLast?_eq_some_getLast hne, List.getLast_eq_getElem]
  rcases Nat.lt_or_ge i (c.indices.length - 1) with h | h
  · exact Nat.lt_succ_of_lt (List.pairwise_iff_getElem.mp hs i _ hi (by omega) h)
  · exact Nat.lt_succ_of_le (Nat.le_of_eq (by congr 1; omega))

theorem Circuit.width_eq {c : Circuit} (hs : c.indices.Pairwise (· < ·)) {w : Nat} (hw : w ∈ c.indices)
    (hmax : ∀ q ∈ c.indices, q ≤ w) : c.width = w + 1 := by
  have h1 := Circuit.lt_width hs hw
  rcases c.width_pred_mem with h0 | hm
  · omega
  · have := hmax _ hm; omega

/-- the old store if the operation is rejected, the store `stepE` returns if it is not -/
theorem step_store {P : Store → Prop} {d : Decide} {s : Store} {op : COp} (h0 : P s)
    (h : ∀ r, stepE d s op = .ok r → P r.1) : P (step d s op).1 := by
  unfold step
  split
  · exact h _ ‹_›
  · exact h0

end Tangelo
