import TangeloModel.Measure
import TangeloProofs.Lemmas.ListSum
import Mathlib.Algebra.Ring.Rat
/-! Association lists bitstring ↦ count (frequency dictionaries, histograms): entering a count with `addTo` adds it to
    every sum of the counts weighted by a function of the key. -/
namespace Tangelo

theorem sum_addTo (g : List Bool → Rat) (d : List (List Bool × Rat)) (k : List Bool) (v : Rat) :
    ((addTo d k v).map fun kv => g kv.1 * kv.2).sum = (d.map fun kv => g kv.1 * kv.2).sum + g k * v := by
  induction d with
  | nil => simp [addTo]
  | cons p rest ih =>
    obtain ⟨k', v'⟩ := p
    rw [addTo]
    split
    · subst ‹k' = k›
      rw [List.map_cons, List.map_cons, List.sum_cons, List.sum_cons, mul_add, add_right_comm]
    · rw [List.map_cons, List.map_cons, List.sum_cons, List.sum_cons, ih, add_assoc]

theorem sum_foldl_addTo (g : List Bool → Rat) (f : List Bool × Rat → List Bool) (l acc : List (List Bool × Rat)) :
    ((l.foldl (fun a kv => addTo a (f kv) kv.2) acc).map fun kv => g kv.1 * kv.2).sum
      = (acc.map fun kv => g kv.1 * kv.2).sum + (l.map fun kv => g (f kv) * kv.2).sum :=
  foldl_add_of_step (fun d => (d.map fun kv => g kv.1 * kv.2).sum) (fun kv => g (f kv) * kv.2) _
    (fun a kv => sum_addTo g a (f kv) kv.2) l acc

@[simp] theorem total_nil : total [] = 0 := rfl

theorem total_foldl_addTo (f : List Bool × Rat → List Bool) (l acc : List (List Bool × Rat)) :
    total (l.foldl (fun a kv => addTo a (f kv) kv.2) acc) = total acc + total l := by
  simpa [total] using sum_foldl_addTo (fun _ => 1) f l acc

end Tangelo
