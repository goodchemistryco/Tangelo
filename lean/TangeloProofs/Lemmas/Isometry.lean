import TangeloProofs.Lemmas.Register
import TangeloProofs.Lemmas.OpInverse
import Mathlib.Algebra.Star.Basic
import Mathlib.Algebra.BigOperators.Group.Finset.Basic
import Mathlib.Algebra.BigOperators.Ring.Finset
import Mathlib.Tactic.Ring
import Mathlib.Tactic.LinearCombination
/-!
`inner n φ ψ = Σ_{i < 2ⁿ} star(φ xᵢ) · ψ xᵢ` over the basis states of an `n`-qubit register, `normSq n ψ = inner n ψ ψ`,
over any commutative star ring whose constants satisfy `Consts.Laws` and are compatible with conjugation
(`Consts.StarLaws`). For every `Op` whose qubits are distinct and lie inside the register, `⟨o φ | χ⟩ = ⟨φ | o⁻¹ χ⟩`
(`Op.adjoint`); with `o⁻¹ o = 1` (`Op.inv_sem`) this gives `normSq n (o.sem k ψ) = normSq n ψ`. The adjoint of each
kind of operation is a re-indexing of the register sum by the involution `p` that maps a basis state to its partner
(`inner_partnerOp`, for the shape `partnerOp A B p` (SemBasic) that all operations have; `inner_ctl_partnerOp` adds
controls that `p` leaves alone).
-/
namespace Tangelo
open Finset

variable {R : Type} [CommRing R] [StarRing R]

/-- |z|² -/
def wt (z : R) : R := star z * z

def normSq (n : Nat) (ψ : State R) : R := ∑ i ∈ range (2 ^ n), wt (ψ (bitsOf i))

/-- ⟨φ|ψ⟩ over the register -/
def inner (n : Nat) (φ ψ : State R) : R := ∑ i ∈ range (2 ^ n), star (φ (bitsOf i)) * ψ (bitsOf i)

theorem inner_self (n : Nat) (ψ : State R) : inner n ψ ψ = normSq n ψ := rfl

/-- conjugation acts on the constants as on the complex numbers -/
structure Consts.StarLaws (k : Consts R) : Prop where
  star_i : star k.i = -k.i
  star_rsqrt2 : star k.rsqrt2 = k.rsqrt2
  star_half : star k.half = k.half
  star_e : ∀ θ, star (k.e θ) = k.e (-θ)

theorem Consts.StarLaws.cos_star {k : Consts R} (S : k.StarLaws) (θ : Ang) : star (k.cosH θ) = k.cosH θ := by
  simp only [Consts.cosH, star_mul', star_add, S.star_half, S.star_e, Ang.neg_neg']; ring

theorem Consts.StarLaws.misin_star {k : Consts R} (S : k.StarLaws) (θ : Ang) : star (k.misinH θ) = -k.misinH θ := by
  simp only [Consts.misinH, star_mul', star_add, star_neg, S.star_half, S.star_e, Ang.neg_neg']; ring

def M2.adj (m : M2 R) : M2 R := ⟨star m.a, star m.c, star m.b, star m.d⟩

theorem M2.adj_one : (M2.one : M2 R).adj = M2.one := by
  apply M2.ext' <;> simp only [M2.adj, M2.one, star_one, star_zero]

theorem base_adj (k : Consts R) (L : k.Laws) (S : k.StarLaws) (b : Base) (θ : Ang) :
    (baseMatrix k b θ).adj = invMatrix k b θ := by
  -- for S† and T†: e(−π/2)² = e(−π) = −i and e(−π/4)² = e(−π/2)
  have hs : k.e (Ang.piQuarter (-2)) * k.e (Ang.piQuarter (-2)) = -k.i := (L.e_add _ _).symm.trans L.e_neg_pi
  have ht : k.e (Ang.piQuarter (-1)) * k.e (Ang.piQuarter (-1)) = k.e (-Ang.piQuarter 2) := (L.e_add _ _).symm
  cases b <;>
    simp only [M2.adj, invMatrix, baseMatrix, Consts.sinH, star_neg, star_zero, star_one, star_mul', S.star_i, S.star_rsqrt2,
      S.star_e, S.cos_star, S.misin_star, k.cosH_neg, k.misinH_neg, Ang.neg_neg', hs, ht, neg_neg,
      mul_neg, neg_mul]

theorem inner_partnerOp (n : Nat) (p : Bits → Bits) (hp : ∀ x, p (p x) = x) (hreg : ∀ x, trunc n x = x → trunc n (p x) = p x)
    (A B : Bits → R) (φ χ : State R) :
    inner n (partnerOp A B p φ) χ = inner n φ (partnerOp (fun x => star (A x)) (fun x => star (B (p x))) p χ) := by
  simp only [inner, partnerOp, star_add, star_mul', add_mul, mul_add, sum_add_distrib]
  congr 1
  · exact sum_congr rfl fun i _ => by ring
  · -- the partner terms: re-index the register sum by `p`
    refine (sum_congr rfl fun i _ => ?_).trans
      (sum_register_invol n p hp hreg fun x => star (φ x) * (star (B (p x)) * χ (p x)))
    rw [hp]; ring

theorem inner_ctl_partnerOp (n : Nat) (cs : List Nat) (p : Bits → Bits) (hp : ∀ x, p (p x) = x)
    (hreg : ∀ x, trunc n x = x → trunc n (p x) = p x) (hcs : ∀ x, cs.all (fun c => p x c) = cs.all (fun c => x c))
    (A B : Bits → R) (φ χ : State R) :
    inner n (ctl cs (partnerOp A B p) φ) χ
      = inner n φ (ctl cs (partnerOp (fun x => star (A x)) (fun x => star (B (p x))) p) χ) := by
  rw [ctl_partnerOp, ctl_partnerOp, inner_partnerOp n p hp hreg]
  congr 2 <;> funext x
  · split <;> simp
  · -- `p` leaves the controls alone, so the coefficient at the partner is tested on the controls of `x`
    rw [hcs]
    split <;> simp

theorem inner_ctl_app1_left (n : Nat) (m : M2 R) (t : Nat) (cs : List Nat) (ht : t < n) (htc : t ∉ cs) (φ χ : State R) :
    inner n (ctl cs (app1 m t) φ) χ = inner n φ (ctl cs (app1 m.adj t) χ) := by
  rw [app1_eq_partnerOp, app1_eq_partnerOp, inner_ctl_partnerOp n cs (·.flip t) (Bits.flip_flip · t)
    (fun x hx => by rw [trunc_flip n x t ht, hx]) fun x => all_flip_of_not_mem cs x t htc]
  congr 4 <;> funext x
  · cases x t <;> rfl
  · simp only [Bits.flip_same, M2.adj]
    cases x t <;> rfl

theorem inner_app1_left (n : Nat) (m : M2 R) (t : Nat) (ht : t < n) (φ χ : State R) :
    inner n (app1 m t φ) χ = inner n φ (app1 m.adj t χ) := by
  simpa only [ctl_nil] using inner_ctl_app1_left n m t [] ht List.not_mem_nil φ χ

theorem inner_ctl_swap_left (n : Nat) (a b : Nat) (cs : List Nat) (ha : a < n) (hb : b < n) (hac : a ∉ cs) (hbc : b ∉ cs)
    (φ χ : State R) : inner n (ctl cs (appSwap a b) φ) χ = inner n φ (ctl cs (appSwap a b) χ) := by
  rw [appSwap_eq_partnerOp]
  simpa only [star_zero, star_one] using inner_ctl_partnerOp n cs (·.swap a b) (Bits.swap_swap · a b)
    (fun x hx => by rw [trunc_swap n x a b ha hb, hx]) (fun x => all_swap_of_not_mem cs x a b hac hbc) (fun _ => 0) (fun _ => 1) φ χ

theorem inner_xx_left (k : Consts R) (S : k.StarLaws) (n : Nat) (θ : Ang) (a b : Nat) (ha : a < n) (hb : b < n)
    (φ χ : State R) : inner n (appXX k θ a b φ) χ = inner n φ (appXX k (-θ) a b χ) := by
  rw [appXX_eq_partnerOp, appXX_eq_partnerOp, inner_partnerOp n _ (Bits.flip2_flip2 · a b)
    fun x hx => by rw [trunc_flip n _ b hb, trunc_flip n x a ha, hx]]
  rw [S.cos_star, S.misin_star, ← k.cosH_neg, ← k.misinH_neg]

/-- the qubits of the operation are distinct (the hypothesis of `Op.inv_sem`) and inside the `n`-qubit register -/
def Op.inReg (n : Nat) (o : Op) : Prop := o.qubits.Nodup ∧ ∀ q ∈ o.qubits, q < n

theorem Op.adjoint (k : Consts R) (L : k.Laws) (S : k.StarLaws) (n : Nat) (o : Op) (h : o.inReg n) (φ χ : State R) :
    inner n (o.sem k φ) χ = inner n φ (o.inv.sem k χ) := by
  obtain ⟨hnd, hlt⟩ := h
  cases o with
  | one b θ t cs =>
    rw [Op.inv_one_sem, ← base_adj k L S]
    exact inner_ctl_app1_left n _ t cs (hlt t (by simp [Op.qubits])) (List.nodup_cons.mp hnd).1 φ χ
  | swap a b cs =>
    simp only [Op.qubits, List.nodup_cons, List.mem_cons, not_or] at hnd
    exact inner_ctl_swap_left n a b cs (hlt a (by simp [Op.qubits])) (hlt b (by simp [Op.qubits])) hnd.1.2 hnd.2.1 φ χ
  | xx θ a b => exact inner_xx_left k S n θ a b (hlt a (by simp [Op.qubits])) (hlt b (by simp [Op.qubits])) φ χ

theorem Op.isometry (k : Consts R) (L : k.Laws) (S : k.StarLaws) (n : Nat) (o : Op) (h : o.inReg n) (ψ : State R) :
    normSq n (o.sem k ψ) = normSq n ψ := by
  rw [← inner_self, Op.adjoint k L S n o h, Op.inv_sem k L o h.1, inner_self]

theorem semOps_isometry (k : Consts R) (L : k.Laws) (S : k.StarLaws) (n : Nat) (ops : List Op)
    (h : ∀ o ∈ ops, o.inReg n) (ψ : State R) : normSq n (semOps k ops ψ) = normSq n ψ :=
  List.foldlRecOn (motive := fun φ => normSq n φ = normSq n ψ) ops _ rfl
    fun φ hφ o ho => (Op.isometry k L S n o (h o ho) φ).trans hφ

end Tangelo
