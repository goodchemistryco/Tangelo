import TangeloProofs.Lemmas.OpInverse
import Mathlib.Tactic.Ring
/-!
Every operation of the gate set has the shape `partnerOp` (SemBasic) on amplitudes, and all of it is read off, and
written to, the operation's own qubits: `ActsOn` (`app1`, `appSwap`, `appXX` each on their qubits; `ctl` adds the
controls). Two maps of this shape on disjoint sets of qubits commute (`ActsOn.comm`).
-/
namespace Tangelo
variable {R : Type} [CommRing R]

/-- `F` acts on the qubits `qs` only: it is `partnerOp A B p`, where the partner `p x` differs from `x` on `qs` at most, and
    `A x`, `B x` and the bits `qs` of `p x` depend on the bits `qs` of `x` only -/
def ActsOn (qs : List Nat) (F : State R → State R) : Prop :=
  ∃ (A B : Bits → R) (p : Bits → Bits), F = partnerOp A B p ∧
    (∀ x r, r ∉ qs → p x r = x r) ∧
    ∀ x y, (∀ r ∈ qs, x r = y r) → A x = A y ∧ B x = B y ∧ ∀ r ∈ qs, p x r = p y r

theorem ActsOn.smul {qs : List Nat} {F : State R → State R} (h : ActsOn qs F) (c : R) (ψ : State R) :
    F (fun x => c * ψ x) = fun x => c * F ψ x := by
  obtain ⟨A, B, p, rfl, -⟩ := h
  funext x
  simp only [partnerOp]
  ring

theorem ActsOn.comm {qs qs' : List Nat} {F F' : State R → State R} (h : ActsOn qs F) (h' : ActsOn qs' F')
    (hd : ∀ q ∈ qs, q ∉ qs') (ψ : State R) : F (F' ψ) = F' (F ψ) := by
  obtain ⟨A, B, p, rfl, hp, hloc⟩ := h
  obtain ⟨A', B', p', rfl, hp', hloc'⟩ := h'
  funext x
  -- `p x` agrees with `x` on `qs'` and `p' x` agrees with `x` on `qs`: neither partner map changes what the other
  -- operation reads
  obtain ⟨hA', hB', hpp'⟩ := hloc' (p x) x fun r hr => hp x r fun h => hd r h hr
  obtain ⟨hA, hB, hp'p⟩ := hloc (p' x) x fun r hr => hp' x r (hd r hr)
  have hc : p' (p x) = p (p' x) := by
    funext r
    by_cases h : r ∈ qs
    · rw [hp' _ r (hd r h), hp'p r h]
    · by_cases h' : r ∈ qs'
      · rw [hp _ r h, hpp' r h']
      · rw [hp' _ r h', hp x r h, hp _ r h, hp' x r h']
  simp only [partnerOp, hA, hB, hA', hB', hc]
  ring

theorem actsOn_app1 (m : M2 R) (t : Nat) : ActsOn [t] (app1 m t) := by
  refine ⟨_, _, _, app1_eq_partnerOp m t, fun x r hr => Bits.flip_other x t r (by simpa using hr), fun x y h => ?_⟩
  simp only [List.mem_singleton, forall_eq] at h ⊢
  simp only [h, Bits.flip_same, and_self]

theorem actsOn_swap (a b : Nat) : ActsOn (R := R) [a, b] (appSwap a b) := by
  refine ⟨_, _, _, appSwap_eq_partnerOp a b, fun x r hr => ?_, fun x y h => ?_⟩
  · simp only [List.mem_cons, List.not_mem_nil, or_false, not_or] at hr
    exact Bits.swap_other x a b r hr.1 hr.2
  · simp only [Bits.swap, true_and]
    exact fun r hr => by rw [h a (by simp), h b (by simp), h r hr]

theorem actsOn_xx (k : Consts R) (θ : Ang) (a b : Nat) : ActsOn [a, b] (appXX k θ a b) := by
  refine ⟨_, _, _, appXX_eq_partnerOp k θ a b, fun x r hr => ?_, fun x y h => ?_⟩
  · simp only [List.mem_cons, List.not_mem_nil, or_false, not_or] at hr
    exact (Bits.flip_other _ b r hr.2).trans (Bits.flip_other x a r hr.1)
  · simp only [Bits.flip, true_and]
    exact fun r hr => by rw [h r hr]

/-- controls are read and not written: they join the qubits acted on, the partner stays -/
theorem ActsOn.ctl {qs : List Nat} {F : State R → State R} (h : ActsOn qs F) (cs : List Nat) :
    ActsOn (qs ++ cs) (Tangelo.ctl cs F) := by
  obtain ⟨A, B, p, rfl, hp, hloc⟩ := h
  refine ⟨_, _, p, ctl_partnerOp cs A B p, fun x r hr => hp x r fun h => hr (List.mem_append_left _ h), fun x y h => ?_⟩
  obtain ⟨hA, hB, hpq⟩ := hloc x y fun r hr => h r (List.mem_append_left _ hr)
  have hc : cs.all (fun c => x c) = cs.all (fun c => y c) :=
    all_congr_of_mem fun c hc => h c (List.mem_append_right _ hc)
  refine ⟨by simp only [hc, hA], by simp only [hc, hB], fun r hr => ?_⟩
  by_cases hq : r ∈ qs
  · exact hpq r hq
  · rw [hp x r hq, hp y r hq, h r hr]

theorem Op.actsOn (k : Consts R) (o : Op) : ActsOn o.qubits (o.sem k) := by
  cases o
  exacts [(actsOn_app1 ..).ctl _, (actsOn_swap ..).ctl _, actsOn_xx ..]

theorem Op.comm_disjoint (k : Consts R) (o o' : Op) (hd : ∀ q ∈ o.qubits, q ∉ o'.qubits) (ψ : State R) :
    o.sem k (o'.sem k ψ) = o'.sem k (o.sem k ψ) :=
  (o.actsOn k).comm (o'.actsOn k) hd ψ

theorem app1_comm (m m' : M2 R) (t t' : Nat) (h : t ≠ t') (ψ : State R) :
    app1 m t (app1 m' t' ψ) = app1 m' t' (app1 m t ψ) :=
  (actsOn_app1 m t).comm (actsOn_app1 m' t') (by simpa using h) ψ

theorem semOps_comm_disjoint (k : Consts R) (o : Op) (mid : List Op)
    (hd : ∀ o' ∈ mid, ∀ q ∈ o.qubits, q ∉ o'.qubits) (ψ : State R) :
    o.sem k (semOps k mid ψ) = semOps k mid (o.sem k ψ) :=
  foldl_comm_of_forall _ (o.sem k) mid (fun m hm ψ => Op.comm_disjoint k o m (hd m hm) ψ) ψ

/-- the operation at `i` replaced by one that does its work and then that of `o`, nothing after `i` touching `o`: the list
    then acts as the old one followed by `o` (how `merge_rotations` folds a rotation into an earlier gate) -/
theorem semOps_set_absorb (k : Consts R) {os : List Op} {i : Nat} {o0 o o1 : Op} (h : os[i]? = some o0)
    (hm : ∀ φ : State R, o1.sem k φ = o.sem k (o0.sem k φ))
    (hd : ∀ j o', i < j → os[j]? = some o' → ∀ q ∈ o.qubits, q ∉ o'.qubits) (ψ : State R) :
    semOps k (os.set i o1) ψ = o.sem k (semOps k os ψ) := by
  obtain ⟨hi, rfl⟩ := List.getElem?_eq_some_iff.mp h
  have hmid : ∀ o' ∈ os.drop (i + 1), ∀ q ∈ o.qubits, q ∉ o'.qubits := by
    intro o' ho'
    obtain ⟨j, hj⟩ := List.mem_iff_getElem?.mp ho'
    exact hd (i + 1 + j) o' (by omega) (List.getElem?_drop ▸ hj)
  rw [List.set_eq_take_append_cons_drop, if_pos hi]
  conv_rhs => rw [← List.take_append_drop i os, List.drop_eq_getElem_cons hi]
  simp only [semOps_append, semOps_cons, hm, semOps_comm_disjoint k o _ hmid]

end Tangelo
