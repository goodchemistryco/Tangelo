import TangeloProofs.Lemmas.SemBasic
import Mathlib.Tactic.Ring
import Mathlib.Tactic.LinearCombination
/-!
The basis changes `B⁻¹·Z·B` of the gate set. A rotation about X or Y turns Z by the full angle, whose half-angle
functions are `cosH`, `misinH` at `θ + θ` (`rx_rotate_Z`: `RX(−θ)·Z·RX(θ) = cos θ·Z + sin θ·Y`, `ry_rotate_Z`:
`RY(θ)·Z·RY(−θ) = cos θ·Z + sin θ·X`), and `e(π) = i` puts in the quarter turn. `HalfPi`, the law `e(π/2) = (1+i)/√2`,
is a hypothesis that property theorems of C02, C06 and C07 carry; nothing here needs it.
-/
namespace Tangelo
variable {R : Type} [CommRing R]

/-- e(π/2) = exp(iπ/4) = (1+i)/√2 -/
def HalfPi (k : Consts R) : Prop := k.e (Ang.piQuarter 2) = (1 + k.i) * k.rsqrt2

theorem rx_rotate_Z (k : Consts R) (L : k.Laws) (θ : Ang) :
    (baseMatrix k .RX (-θ)).mul ((baseMatrix k .Z 0).mul (baseMatrix k .RX θ))
      = ⟨k.cosH (θ + θ), k.misinH (θ + θ), -k.misinH (θ + θ), -k.cosH (θ + θ)⟩ := by
  apply M2.ext' <;> simp only [baseMatrix, M2.mul, k.cosH_neg, k.misinH_neg, L.cos_add, L.misin_add] <;> ring1

theorem ry_rotate_Z (k : Consts R) (L : k.Laws) (θ : Ang) :
    (baseMatrix k .RY θ).mul ((baseMatrix k .Z 0).mul (baseMatrix k .RY (-θ)))
      = ⟨k.cosH (θ + θ), k.sinH (θ + θ), k.sinH (θ + θ), -k.cosH (θ + θ)⟩ := by
  apply M2.ext' <;> simp only [baseMatrix, M2.mul, Consts.sinH, k.cosH_neg, k.misinH_neg, L.cos_add, L.misin_add]
  · linear_combination (-(k.misinH θ * k.misinH θ)) * L.i_sq
  · ring1
  · ring1
  · linear_combination (k.misinH θ * k.misinH θ) * L.i_sq

theorem h_conj_Z (k : Consts R) (L : k.Laws) :
    (baseMatrix k .H 0).mul ((baseMatrix k .Z 0).mul (baseMatrix k .H 0)) = baseMatrix k .X 0 := by
  apply M2.ext' <;> simp only [baseMatrix, M2.mul]
  · ring1
  · linear_combination L.rsqrt2_sq
  · linear_combination L.rsqrt2_sq
  · ring1

theorem ry_conj_Z (k : Consts R) (L : k.Laws) :
    (baseMatrix k .RY (Ang.piQuarter 2)).mul ((baseMatrix k .Z 0).mul (baseMatrix k .RY (Ang.piQuarter (-2))))
      = baseMatrix k .X 0 := by
  -- at the quarter turn `cos θ·Z + sin θ·X` is `X`: `cos π = 0`, `sin π = i·(−i) = 1`
  rw [← Ang.neg_piQuarter, ry_rotate_Z k L, show Ang.piQuarter 2 + Ang.piQuarter 2 = Ang.pi from rfl]
  apply M2.ext' <;> simp only [baseMatrix, Consts.sinH, L.cos_pi, L.misin_pi, neg_zero]
  · linear_combination (-1 : R) * L.i_sq
  · linear_combination (-1 : R) * L.i_sq

theorem rx_conj_Z (k : Consts R) (L : k.Laws) :
    (baseMatrix k .RX (Ang.piQuarter (-2))).mul ((baseMatrix k .Z 0).mul (baseMatrix k .RX (Ang.piQuarter 2)))
      = baseMatrix k .Y 0 := by
  rw [← Ang.neg_piQuarter, rx_rotate_Z k L, show Ang.piQuarter 2 + Ang.piQuarter 2 = Ang.pi from rfl]
  apply M2.ext' <;> simp only [baseMatrix, L.cos_pi, L.misin_pi, neg_zero, neg_neg]

theorem rz_cos_misin (k : Consts R) (L : k.Laws) (θ : Ang) :
    baseMatrix k .RZ θ = ⟨k.cosH θ + k.misinH θ, 0, 0, k.cosH θ - k.misinH θ⟩ := by
  rw [← L.e_neg_eq, ← L.e_eq]; rfl

/-- `RZ(θ) = cos·1 − i sin·Z`, so a basis change `B` with `B⁻¹B = 1` and `B⁻¹ Z B = P` turns it into
    `cos·1 − i sin·P` (the one-qubit form of the Pauli-exponential identity) -/
theorem conj_rz (k : Consts R) (L : k.Laws) (Bi Bf P : M2 R) (h1 : Bi.mul Bf = M2.one)
    (hZ : Bi.mul ((baseMatrix k .Z 0).mul Bf) = P) (θ : Ang) :
    Bi.mul ((baseMatrix k .RZ θ).mul Bf) =
      ⟨k.cosH θ + k.misinH θ * P.a, k.misinH θ * P.b, k.misinH θ * P.c, k.cosH θ + k.misinH θ * P.d⟩ := by
  subst hZ
  simp only [M2.mul, M2.one, M2.mk.injEq] at h1
  obtain ⟨ha, hb, hc, hd⟩ := h1
  rw [rz_cos_misin k L]
  apply M2.ext' <;> simp only [baseMatrix, M2.mul]
  · linear_combination k.cosH θ * ha
  · linear_combination k.cosH θ * hb
  · linear_combination k.cosH θ * hc
  · linear_combination k.cosH θ * hd

end Tangelo
