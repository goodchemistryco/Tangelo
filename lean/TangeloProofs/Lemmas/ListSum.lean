import Mathlib.Algebra.BigOperators.Group.List.Basic
import Mathlib.Algebra.BigOperators.Group.Finset.Basic
import Mathlib.Algebra.BigOperators.Group.Finset.Sigma
/-! The accumulation loops of the code (`acc += g x`) are sums; double sums over unions of index sets. -/
namespace Tangelo

/-- `μ` measures the state of a loop; if every step adds `ν a` to the measure, the loop adds the sum -/
theorem foldl_add_of_step {α β M : Type} [AddMonoid M] (μ : β → M) (ν : α → M) (F : β → α → β)
    (h : ∀ b a, μ (F b a) = μ b + ν a) (l : List α) (b : β) : μ (l.foldl F b) = μ b + (l.map ν).sum := by
  induction l generalizing b with
  | nil => simp
  | cons x xs ih => rw [List.foldl_cons, ih, h, List.map_cons, List.sum_cons, add_assoc]

/-- the loop `for x in l: acc += g x` -/
theorem foldl_add_eq_sum {α M : Type} [AddMonoid M] (g : α → M) (l : List α) (init : M) :
    l.foldl (fun acc x => acc + g x) init = init + (l.map g).sum :=
  foldl_add_of_step id g _ (fun _ _ => rfl) l init

theorem sum_map_range {M : Type} [AddCommMonoid M] (m : Nat) (f : Nat → M) :
    ((List.range m).map f).sum = ∑ i ∈ Finset.range m, f i := rfl

theorem sum_map_flatMap {α β M : Type} [AddMonoid M] (l : List α) (f : α → List β) (g : β → M) :
    ((l.flatMap f).map g).sum = (l.map fun a => ((f a).map g).sum).sum := by
  induction l with
  | nil => rfl
  | cons a as ih => simp [List.flatMap_cons, List.map_append, List.sum_append, ih]

section
open Finset
variable {ι M : Type} [AddCommMonoid M]

theorem sum_sum_union [DecidableEq ι] (f : ι → ι → M) {s t s' t' : Finset ι} (hd : Disjoint s t) (hd' : Disjoint s' t') :
    ∑ i ∈ s ∪ t, ∑ j ∈ s' ∪ t', f i j =
      (∑ i ∈ s, ∑ j ∈ s', f i j + ∑ i ∈ s, ∑ j ∈ t', f i j) + (∑ i ∈ t, ∑ j ∈ s', f i j + ∑ i ∈ t, ∑ j ∈ t', f i j) := by
  simp only [sum_union hd, sum_union hd', sum_add_distrib]

theorem sum_sum_symm (f : ι → ι → M) (hf : ∀ i j, f i j = f j i) (s t : Finset ι) :
    ∑ i ∈ s, ∑ j ∈ t, f i j = ∑ i ∈ t, ∑ j ∈ s, f i j :=
  sum_comm.trans (sum_congr rfl fun j _ => sum_congr rfl fun i _ => hf i j)

end

end Tangelo
