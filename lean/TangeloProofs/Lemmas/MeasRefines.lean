import TangeloModel.Measure
import TangeloProofs.Lemmas.SimRefines
/-! The conditioned simulation of the model driver (`runBranch`: mid-circuit measurements and measurement-controlled
blocks along a given outcome string) refines its specification on states, `specBranch`. -/
namespace Tangelo

theorem proj_trunc {R : Type} [Zero R] (n q : Nat) (b : Bool) (hq : q < n) (ψ : State R) :
    proj q b (fun x => ψ (trunc n x)) = fun x => proj q b ψ (trunc n x) := by
  funext x; simp only [proj, trunc_lt x hq]

theorem projSV_tabulate (n q : Nat) (b : Bool) (hq : q < n) (ψ : State Cyc) :
    projSV n q b (tabulate n ψ) = tabulate n (proj q b ψ) :=
  tabulate_lookup n _ (proj_trunc n q b hq) ψ

/-- a conditioned run on states (functions on bit strings): the recursion of `runBranch` with `Op.sem` and the projector
    `proj` in place of the array operations `stepOp`, `projSV`. `runBranch` is what the driver executes and what is compared
    with the backends; this is what the theorems about `proj` and `Op.sem` speak of -/
def specBranch : Nat → List MGate → List Bool → State Cyc → Option (State Cyc)
  | 0, _, _, _ => none
  | _ + 1, [], _, ψ => some ψ
  | fuel + 1, MGate.op g :: rest, des, ψ =>
    match g.toOp with
    | none => none
    | some o => specBranch fuel rest des (o.sem cycConsts ψ)
  | fuel + 1, MGate.measure q :: rest, des, ψ =>
    match des with
    | [] => none
    | b :: des' => specBranch fuel rest des' (proj q b ψ)
  | fuel + 1, MGate.cmeasure q on0 on1 :: rest, des, ψ =>
    match des with
    | [] => none
    | b :: des' => specBranch fuel ((if b then on1 else on0) ++ rest) des' (proj q b ψ)

/-- every gate and measurement of the program, at any nesting depth, lies inside the register -/
inductive ProgInReg (n : Nat) : List MGate → Prop
  | nil : ProgInReg n []
  | op (g : Gate) (rest : List MGate) : (∀ o, g.toOp = some o → ∀ q ∈ o.qubits, q < n) → ProgInReg n rest →
      ProgInReg n (MGate.op g :: rest)
  | measure (q : Nat) (rest : List MGate) : q < n → ProgInReg n rest → ProgInReg n (MGate.measure q :: rest)
  | cmeasure (q : Nat) (on0 on1 rest : List MGate) : q < n → ProgInReg n on0 → ProgInReg n on1 → ProgInReg n rest →
      ProgInReg n (MGate.cmeasure q on0 on1 :: rest)

theorem ProgInReg.append {n : Nat} {xs ys : List MGate} (hx : ProgInReg n xs) (hy : ProgInReg n ys) : ProgInReg n (xs ++ ys) := by
  induction hx with
  | nil => exact hy
  | op g rest hg _ ih => exact ProgInReg.op g _ hg ih
  | measure q rest hq _ ih => exact ProgInReg.measure q _ hq ih
  | cmeasure q on0 on1 rest hq h0 h1 _ _ _ ih => exact ProgInReg.cmeasure q on0 on1 _ hq h0 h1 ih

/-- for every program inside the register (nested measurement-controlled blocks included) and every outcome string,
    the state vector the model driver returns for the branch is the table of the specified (projected, unnormalised)
    state -/
theorem runBranch_refines (n : Nat) :
    ∀ (fuel : Nat) (prog : List MGate) (des : List Bool) (acc : BranchOut) (ψ : State Cyc),
      ProgInReg n prog → acc.sv = tabulate n ψ →
      (runBranch n fuel prog des acc).map (·.sv) = (specBranch fuel prog des ψ).map (tabulate n) := by
  intro fuel
  induction fuel with
  | zero => intro prog des acc ψ _ _; rfl
  | succ f ih =>
    intro prog des acc ψ hp hacc
    cases hp with
    | nil => simp [runBranch, specBranch, hacc]
    | op g rest hg hr =>
      simp only [runBranch, specBranch]
      cases ho : g.toOp with
      | none => rfl
      | some o => exact ih rest des _ _ hr (hacc ▸ stepOp_tabulate n o (hg o ho) ψ)
    | measure q rest hq hr =>
      simp only [runBranch, specBranch]
      cases des with
      | nil => rfl
      | cons b des' => exact ih rest des' _ _ hr (hacc ▸ projSV_tabulate n q b hq ψ)
    | cmeasure q on0 on1 rest hq h0 h1 hr =>
      simp only [runBranch, specBranch]
      cases des with
      | nil => rfl
      | cons b des' =>
        exact ih _ des' _ _ (by cases b <;> [exact h0.append hr; exact h1.append hr]) (hacc ▸ projSV_tabulate n q b hq ψ)
end Tangelo
