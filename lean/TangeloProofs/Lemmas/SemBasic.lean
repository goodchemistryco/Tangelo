import TangeloModel.Sem
import TangeloProofs.Lemmas.Prelude
import Mathlib.Tactic.Ring
import Mathlib.Tactic.LinearCombination
import Mathlib.Algebra.Ring.Basic
/-!
  The algebra under the gate semantics, over any commutative ring with constants `i`, `1/√2`, `1/2` and a
  homomorphism `e : Ang → R` ("e θ = exp(iθ/2)"); `Consts.Laws` is all that is assumed of them. Exact angles satisfy
  the laws of an abelian group (lemmas, no instance).
-/
namespace Tangelo

theorem Ang.add_def (a b : Ang) : a + b = Ang.add a b := rfl
theorem Ang.neg_def (a : Ang) : -a = Ang.neg a := rfl
theorem Ang.zero_def : (0 : Ang) = Ang.zero := rfl

/-! `Ang` is `ℤ⁷` with componentwise operations: each law is the law of `ℤ` in every component -/
@[simp] theorem Ang.add_neg_cancel (a : Ang) : a + -a = 0 := by
  simp only [Ang.add_def, Ang.neg_def, Ang.zero_def, Ang.add, Ang.neg, Int.add_right_neg]; rfl
@[simp] theorem Ang.neg_add_cancel (a : Ang) : -a + a = 0 := by
  simp only [Ang.add_def, Ang.neg_def, Ang.zero_def, Ang.add, Ang.neg, Int.add_left_neg]; rfl
@[simp] theorem Ang.neg_neg' (a : Ang) : - -a = a := by
  simp only [Ang.neg_def, Ang.neg, Int.neg_neg]
theorem Ang.add_comm' (a b : Ang) : a + b = b + a := by
  simp only [Ang.add_def, Ang.add, Int.add_comm]
theorem Ang.add_assoc' (a b c : Ang) : a + b + c = a + (b + c) := by
  simp only [Ang.add_def, Ang.add, Int.add_assoc]
@[simp] theorem Ang.add_zero' (a : Ang) : a + 0 = a := by
  simp only [Ang.add_def, Ang.zero_def, Ang.add, Ang.zero, Int.add_zero]
@[simp] theorem Ang.zero_add' (a : Ang) : 0 + a = a := by
  simp only [Ang.add_def, Ang.zero_def, Ang.add, Ang.zero, Int.zero_add]
@[simp] theorem Ang.neg_zero' : -(0 : Ang) = 0 := rfl
theorem Ang.neg_add' (a b : Ang) : -(a + b) = -a + -b := by
  simp only [Ang.add_def, Ang.neg_def, Ang.add, Ang.neg, Int.neg_add]

theorem Ang.piQuarter_add (m n : Int) : Ang.piQuarter m + Ang.piQuarter n = Ang.piQuarter (m + n) := by
  simp [Ang.add_def, Ang.add, Ang.piQuarter]
theorem Ang.neg_piQuarter (n : Int) : -Ang.piQuarter n = Ang.piQuarter (-n) := rfl

variable {R : Type} [CommRing R]

/-- what is assumed of the constants; satisfied by ℂ with e θ = exp(iθ/2) and by `Cyc` -/
structure Consts.Laws (k : Consts R) : Prop where
  i_sq : k.i * k.i = -1
  rsqrt2_sq : 2 * (k.rsqrt2 * k.rsqrt2) = 1
  two_half : 2 * k.half = 1
  e_zero : k.e 0 = 1
  e_add : ∀ a b, k.e (a + b) = k.e a * k.e b
  e_pi : k.e Ang.pi = k.i

theorem Consts.cosH_neg (k : Consts R) (θ : Ang) : k.cosH (-θ) = k.cosH θ := by
  unfold Consts.cosH; rw [Ang.neg_neg']; ring
theorem Consts.misinH_neg (k : Consts R) (θ : Ang) : k.misinH (-θ) = -k.misinH θ := by
  unfold Consts.misinH; rw [Ang.neg_neg']; ring

namespace Consts.Laws
variable {k : Consts R} (L : k.Laws)
include L

theorem e_neg_mul (a : Ang) : k.e (-a) * k.e a = 1 := by rw [← L.e_add, Ang.neg_add_cancel, L.e_zero]

theorem cos_zero : k.cosH 0 = 1 := by
  unfold Consts.cosH; rw [Ang.neg_zero', L.e_zero]; linear_combination L.two_half
theorem misin_zero : k.misinH 0 = 0 := by
  unfold Consts.misinH; rw [Ang.neg_zero', L.e_zero]; ring

theorem cos_add (a b : Ang) : k.cosH (a + b) = k.cosH a * k.cosH b + k.misinH a * k.misinH b := by
  unfold Consts.cosH Consts.misinH
  rw [Ang.neg_add', L.e_add, L.e_add]
  linear_combination (-(k.half * (k.e a * k.e b + k.e (-a) * k.e (-b)))) * L.two_half
theorem misin_add (a b : Ang) : k.misinH (a + b) = k.misinH a * k.cosH b + k.cosH a * k.misinH b := by
  unfold Consts.cosH Consts.misinH
  rw [Ang.neg_add', L.e_add, L.e_add]
  linear_combination (-(k.half * (k.e (-a) * k.e (-b) - k.e a * k.e b))) * L.two_half

/-- cos² + sin² = 1, written with `−i sin`: the addition theorem at `θ + −θ = 0` -/
theorem cos_sq_sub (θ : Ang) : k.cosH θ * k.cosH θ - k.misinH θ * k.misinH θ = 1 := by
  rw [← L.cos_zero, ← Ang.add_neg_cancel θ, L.cos_add, k.cosH_neg, k.misinH_neg]
  ring

/-- Euler's formula -/
theorem e_eq (θ : Ang) : k.e θ = k.cosH θ - k.misinH θ := by
  unfold Consts.cosH Consts.misinH; linear_combination (-(k.e θ)) * L.two_half
theorem e_neg_eq (θ : Ang) : k.e (-θ) = k.cosH θ + k.misinH θ := by
  unfold Consts.cosH Consts.misinH; linear_combination (-(k.e (-θ))) * L.two_half

theorem e_neg_pi : k.e (-Ang.pi) = -k.i := by
  -- multiply `e(−π) · i = 1` by `−i`
  have h := L.e_neg_mul Ang.pi
  rw [L.e_pi] at h
  linear_combination (-k.i) * h + k.e (-Ang.pi) * L.i_sq

theorem cos_pi : k.cosH Ang.pi = 0 := by
  rw [Consts.cosH, L.e_pi, L.e_neg_pi, add_neg_cancel, mul_zero]

theorem misin_pi : k.misinH Ang.pi = -k.i := by
  rw [Consts.misinH, L.e_pi, L.e_neg_pi]
  linear_combination (-k.i) * L.two_half

theorem e_two_pi : k.e (Ang.piQuarter 8) = -1 := by
  rw [show Ang.piQuarter 8 = Ang.pi + Ang.pi from (Ang.piQuarter_add 4 4).symm, L.e_add, L.e_pi, L.i_sq]

theorem e_four_pi : k.e (Ang.piQuarter 16) = 1 := by
  rw [show Ang.piQuarter 16 = Ang.piQuarter 8 + Ang.piQuarter 8 from (Ang.piQuarter_add 8 8).symm, L.e_add,
    L.e_two_pi, neg_mul_neg, one_mul]

/-- the period is 4π, not 2π: `e θ = exp(iθ/2)` -/
theorem baseMatrix_add_four_pi (b : Base) (θ : Ang) : baseMatrix k b (θ + Ang.piQuarter 16) = baseMatrix k b θ := by
  have hn : k.e (-Ang.piQuarter 16) = 1 := by simpa only [L.e_four_pi, mul_one] using L.e_neg_mul (Ang.piQuarter 16)
  have he : k.e (θ + Ang.piQuarter 16) = k.e θ := by rw [L.e_add, L.e_four_pi, mul_one]
  have hen : k.e (-(θ + Ang.piQuarter 16)) = k.e (-θ) := by rw [Ang.neg_add', L.e_add, hn, mul_one]
  cases b <;> simp only [baseMatrix, Consts.sinH, Consts.cosH, Consts.misinH, he, hen]

end Consts.Laws

theorem Base.parametrized_iff {b : Base} : b.parametrized = true ↔ b = .RX ∨ b = .RY ∨ b = .RZ ∨ b = .PHASE := by
  cases b <;> simp [Base.parametrized]

omit [CommRing R] in
@[ext] theorem M2.ext' (m n : M2 R) (ha : m.a = n.a) (hb : m.b = n.b) (hc : m.c = n.c) (hd : m.d = n.d) : m = n := by
  cases m; cases n; simp_all

theorem M2.one_mul (m : M2 R) : M2.one.mul m = m := by
  apply M2.ext' <;> simp only [M2.mul, M2.one] <;> ring1
theorem M2.mul_one (m : M2 R) : m.mul M2.one = m := by
  apply M2.ext' <;> simp only [M2.mul, M2.one] <;> ring1

theorem baseMatrix_add (k : Consts R) (L : k.Laws) {b : Base} (hb : b.parametrized = true) (a a' : Ang) :
    (baseMatrix k b a').mul (baseMatrix k b a) = baseMatrix k b (a + a') := by
  rcases Base.parametrized_iff.mp hb with rfl | rfl | rfl | rfl <;>
    simp only [baseMatrix, M2.mul, Consts.sinH, L.cos_add, L.misin_add, L.e_add, Ang.neg_add', M2.mk.injEq]
  · and_intros <;> ring1
  · -- the diagonal of RY: `sin = i·(−i sin)`, so the product of the sines is minus that of the `−i sin`
    refine ⟨?_, ?_, ?_, ?_⟩
    · linear_combination (-(k.misinH a' * k.misinH a)) * L.i_sq
    · ring1
    · ring1
    · linear_combination (-(k.misinH a' * k.misinH a)) * L.i_sq
  · and_intros <;> ring1
  · and_intros <;> ring1

theorem baseMatrix_zero (k : Consts R) (L : k.Laws) {b : Base} (hb : b.parametrized = true) :
    baseMatrix k b 0 = M2.one := by
  rcases Base.parametrized_iff.mp hb with rfl | rfl | rfl | rfl <;>
    simp only [baseMatrix, M2.one, Consts.sinH, L.cos_zero, L.misin_zero, L.e_zero, Ang.neg_zero', mul_zero, neg_zero,
      mul_one]

theorem baseMatrix_S (k : Consts R) (L : k.Laws) (θ : Ang) :
    baseMatrix k .S θ = baseMatrix k .PHASE (Ang.piQuarter 2) := by
  -- i = e(π) = e(π/2 + π/2) = e(π/2)·e(π/2)
  simp only [baseMatrix, ← L.e_add, Ang.piQuarter_add, ← L.e_pi]; rfl

theorem baseMatrix_T (k : Consts R) (L : k.Laws) (θ : Ang) :
    baseMatrix k .T θ = baseMatrix k .PHASE (Ang.piQuarter 1) := by
  -- e(π/2) = e(π/4 + π/4) = e(π/4)·e(π/4)
  simp only [baseMatrix, ← L.e_add, Ang.piQuarter_add]; rfl

@[simp] theorem Bits.set_same (x : Bits) (q : Nat) (b : Bool) : (x.set q b) q = b := by simp [Bits.set]
@[simp] theorem Bits.set_other (x : Bits) (q r : Nat) (b : Bool) (h : r ≠ q) : (x.set q b) r = x r := by simp [Bits.set, h]
@[simp] theorem Bits.set_set (x : Bits) (q : Nat) (b c : Bool) : (x.set q b).set q c = x.set q c := by
  funext r; by_cases h : r = q <;> simp [Bits.set, h]
theorem Bits.set_self (x : Bits) (q : Nat) : x.set q (x q) = x := by
  funext r; by_cases h : r = q <;> simp [Bits.set, h]
theorem Bits.set_comm (x : Bits) (q r : Nat) (b c : Bool) (h : q ≠ r) : (x.set q b).set r c = (x.set r c).set q b := by
  funext s
  by_cases hq : s = q
  · simp [Bits.set, hq, h]
  · simp [Bits.set, hq]

theorem Bits.flip_eq_set (x : Bits) (t : Nat) : x.flip t = x.set t (!(x t)) := by
  funext q; by_cases h : q = t <;> simp [Bits.flip, Bits.set, h]
@[simp] theorem Bits.flip_same (x : Bits) (t : Nat) : (x.flip t) t = !(x t) := by simp [Bits.flip]
theorem Bits.flip_other (x : Bits) (a t : Nat) (h : t ≠ a) : (x.flip a) t = x t := by
  simp [Bits.flip, h]
theorem Bits.flip_flip (x : Bits) (a : Nat) : (x.flip a).flip a = x := by
  funext r
  by_cases h : r = a <;> simp [Bits.flip, h]
theorem Bits.flip_flip_comm (x : Bits) (a b : Nat) : (x.flip a).flip b = (x.flip b).flip a := by
  funext r; simp only [Bits.flip]; grind
theorem Bits.flip2_flip2 (x : Bits) (a b : Nat) : (((x.flip a).flip b).flip a).flip b = x := by
  rw [Bits.flip_flip_comm (x.flip a), Bits.flip_flip, Bits.flip_flip]

theorem Bits.swap_other (x : Bits) (a b t : Nat) (ha : t ≠ a) (hb : t ≠ b) : (x.swap a b) t = x t := by
  simp [Bits.swap, ha, hb]
theorem Bits.swap_swap (x : Bits) (a b : Nat) : (x.swap a b).swap a b = x := by
  funext r; simp only [Bits.swap]; grind

/-- `app1` through the amplitudes at `x` and at its partner (bit `t` flipped), where the model writes both values of
    bit `t` -/
theorem app1_apply (m : M2 R) (t : Nat) (ψ : State R) (x : Bits) :
    app1 m t ψ x = (if x t then m.d else m.a) * ψ x + (if x t then m.c else m.b) * ψ (x.set t (!x t)) := by
  have hx := Bits.set_self x t
  cases h : x t <;> rw [h] at hx <;> simp [app1, h, hx, add_comm]

theorem app1_diag_apply (m : M2 R) (t : Nat) (ψ : State R) (x : Bits) (hb : m.b = 0) (hc : m.c = 0) :
    app1 m t ψ x = (if x t then m.d else m.a) * ψ x := by
  rw [app1_apply, hb, hc, ite_self, zero_mul, add_zero]

theorem app1_anti_apply (m : M2 R) (t : Nat) (ψ : State R) (x : Bits) (ha : m.a = 0) (hd : m.d = 0) :
    app1 m t ψ x = (if x t then m.c else m.b) * ψ (x.set t (!x t)) := by
  rw [app1_apply, ha, hd, ite_self, zero_mul, zero_add]

theorem app1_Z (k : Consts R) (q : Nat) (ψ : State R) (x : Bits) :
    app1 (baseMatrix k .Z 0) q ψ x = (if x q then -1 else 1) * ψ x :=
  app1_diag_apply _ q ψ x rfl rfl

theorem app1_one (t : Nat) (ψ : State R) : app1 (M2.one : M2 R) t ψ = ψ := by
  funext x
  rw [app1_diag_apply _ t ψ x rfl rfl]
  simp only [M2.one, ite_self, one_mul]

theorem app1_app1 (m n : M2 R) (t : Nat) (ψ : State R) : app1 m t (app1 n t ψ) = app1 (m.mul n) t ψ := by
  funext x
  simp only [app1, Bits.set_same, Bits.set_set, M2.mul, Bool.false_eq_true, if_true, if_false]
  split <;> ring

theorem all_set_of_not_mem (cs : List Nat) (x : Bits) (t : Nat) (b : Bool) (h : t ∉ cs) :
    cs.all (fun c => (x.set t b) c) = cs.all (fun c => x c) :=
  all_congr_of_mem fun _ hc => Bits.set_other x t _ b (ne_of_mem_of_not_mem hc h)
theorem all_flip_of_not_mem (cs : List Nat) (x : Bits) (t : Nat) (h : t ∉ cs) :
    cs.all (fun c => (x.flip t) c) = cs.all (fun c => x c) :=
  all_congr_of_mem fun _ hc => Bits.flip_other x t _ (ne_of_mem_of_not_mem hc h)
theorem all_swap_of_not_mem (cs : List Nat) (x : Bits) (a b : Nat) (ha : a ∉ cs) (hb : b ∉ cs) :
    cs.all (fun c => (x.swap a b) c) = cs.all (fun c => x c) :=
  all_congr_of_mem fun _ hc => Bits.swap_other x a b _ (ne_of_mem_of_not_mem hc ha) (ne_of_mem_of_not_mem hc hb)

omit [CommRing R] in
theorem ctl_nil (f : State R → State R) (ψ : State R) : ctl [] f ψ = f ψ := by
  funext x; simp [ctl]

theorem app1_ctl (m : M2 R) {t : Nat} {cs : List Nat} (ht : t ∉ cs) (f : State R → State R) (ψ : State R) (x : Bits) :
    app1 m t (ctl cs f ψ) x = if cs.all (fun c => x c) then app1 m t (f ψ) x else app1 m t ψ x := by
  simp only [app1, ctl, all_set_of_not_mem cs x t _ ht]
  cases cs.all (fun c => x c) <;> rfl

theorem ctl_app1_app1 (cs : List Nat) (m n : M2 R) (t : Nat) (ht : t ∉ cs) (ψ : State R) :
    ctl cs (app1 m t) (ctl cs (app1 n t) ψ) = ctl cs (app1 (m.mul n) t) ψ := by
  funext x
  simp only [ctl, app1_ctl m ht, app1_app1]
  split <;> rfl

theorem ctl_app1_one (cs : List Nat) (t : Nat) (ψ : State R) : ctl cs (app1 (M2.one : M2 R) t) ψ = ψ := by
  funext x
  simp only [ctl, app1_one, ite_self]

/-- the shape every operation of the gate set has on amplitudes: the new amplitude at `x` combines the old ones at `x` and
    at its partner `p x`. Commutation on disjoint qubits (Lemmas/Commute) and the adjoint (Lemmas/Isometry) are proved
    for this shape. -/
def partnerOp (A B : Bits → R) (p : Bits → Bits) (ψ : State R) : State R := fun x => A x * ψ x + B x * ψ (p x)

theorem app1_eq_partnerOp (m : M2 R) (t : Nat) :
    app1 m t = partnerOp (fun x => if x t then m.d else m.a) (fun x => if x t then m.c else m.b) (·.flip t) := by
  funext ψ x
  rw [app1_apply, ← Bits.flip_eq_set]
  rfl

theorem appSwap_eq_partnerOp (a b : Nat) :
    (appSwap a b : State R → State R) = partnerOp (fun _ => 0) (fun _ => 1) (·.swap a b) := by
  funext ψ x
  simp only [partnerOp, zero_mul, zero_add, one_mul]
  rfl

theorem appXX_eq_partnerOp (k : Consts R) (θ : Ang) (a b : Nat) :
    appXX k θ a b = partnerOp (fun _ => k.cosH θ) (fun _ => k.misinH θ) fun x => (x.flip a).flip b := rfl

theorem ctl_partnerOp (cs : List Nat) (A B : Bits → R) (p : Bits → Bits) :
    ctl cs (partnerOp A B p) = partnerOp (fun x => if cs.all (fun c => x c) then A x else 1)
      (fun x => if cs.all (fun c => x c) then B x else 0) p := by
  funext ψ x
  simp only [ctl, partnerOp]
  split <;> simp

theorem semOps_nil (k : Consts R) (ψ : State R) : semOps k [] ψ = ψ := rfl
theorem semOps_cons (k : Consts R) (o : Op) (os : List Op) (ψ : State R) : semOps k (o :: os) ψ = semOps k os (o.sem k ψ) := rfl
theorem semOps_append (k : Consts R) (xs ys : List Op) (ψ : State R) :
    semOps k (xs ++ ys) ψ = semOps k ys (semOps k xs ψ) := by
  simp [semOps, List.foldl_append]

theorem Op.sem_one_nil (k : Consts R) (b : Base) (θ : Ang) (t : Nat) (ψ : State R) :
    (Op.one b θ t []).sem k ψ = app1 (baseMatrix k b θ) t ψ := ctl_nil _ ψ

theorem semOps_flatten_replicate (k : Consts R) (ops : List Op) (n : Nat) (ψ : State R) :
    semOps k (List.replicate n ops).flatten ψ = (semOps k ops)^[n] ψ := by
  induction n generalizing ψ with
  | zero => rfl
  | succ n ih => rw [List.replicate_succ, List.flatten_cons, semOps_append, ih, Function.iterate_succ_apply]

end Tangelo
