import TangeloModel.Circuit
import TangeloProofs.Lemmas.Prelude
/-!
  What `Except`-valued circuit operations return when they succeed: relabelling (`trim_qubits`, `reindex_qubits`, with
  `Gate.relabel σ` as the relabelled gate), placing a gate (the step of `split`), one more gate of `inverseGates`, the
  group `firstGroup` finds, a step of `merge_rotations`, the whole run of each of the three simplification passes and
  the loop of `simplify`. The wrappers `mul`, `add`, `copy`, `inverse`, `stack`, `split` themselves are one `bind` or
  `if` around these and are unfolded where C09 and C11 need them. Core Lean only.
-/
namespace Tangelo

/-- what `trim_qubits` and `reindex_qubits` do to one gate: every qubit label `q` becomes `σ q` -/
def Gate.relabel (σ : Nat → Nat) (g : Gate) : Gate :=
  { g with target := g.target.map σ, control := g.control.map (List.map σ) }

@[simp] theorem Gate.relabel_name (σ : Nat → Nat) (g : Gate) : (g.relabel σ).name = g.name := rfl
@[simp] theorem Gate.relabel_qubits (σ : Nat → Nat) (g : Gate) : (g.relabel σ).qubits = g.qubits.map σ := by
  cases h : g.control <;> simp [Gate.relabel, Gate.qubits, h]

open Circuit

/-- the relabelling table as a total function (identity outside the table) -/
def tblFun (m : List (Nat × Nat)) (q : Nat) : Nat :=
  match mapIdx m q with
  | .ok q' => q'
  | .error _ => q

theorem tblFun_agrees (m : List (Nat × Nat)) (q q' : Nat) (h : mapIdx m q = .ok q') : tblFun m q = q' := by
  simp [tblFun, h]

theorem mem_of_mapIdx_eq_ok {m : List (Nat × Nat)} {q q' : Nat} (h : mapIdx m q = .ok q') : (q, q') ∈ m := by
  unfold mapIdx at h
  split at h
  · injection h with h
    exact h ▸ mem_of_find?_fst_eq_some ‹_›
  · cases h

section Remap
variable {m : List (Nat × Nat)} {σ : Nat → Nat} (hσ : ∀ q q', mapIdx m q = .ok q' → σ q = q')
include hσ

/-- for any total `σ` that agrees with the table, a successful remap gives the `σ`-relabelled list, and the table is
    defined on every label that occurs -/
theorem mapList_eq_ok {l l' : List Nat} (h : mapList m l = .ok l') : l' = l.map σ ∧ ∀ q ∈ l, (q, σ q) ∈ m := by
  induction l generalizing l' with
  | nil => cases h; simp
  | cons q qs ih =>
    simp only [mapList, bind_eq_ok, pure_eq_ok] at h
    obtain ⟨a, ha, b, hb, rfl⟩ := h
    obtain ⟨rfl, hm⟩ := ih hb
    obtain rfl := hσ q a ha
    exact ⟨rfl, by simpa [mem_of_mapIdx_eq_ok ha] using hm⟩

theorem remapGate_eq_ok {g g' : Gate} (h : remapGate m g = .ok g') :
    g' = g.relabel σ ∧ ∀ q ∈ g.qubits, (q, σ q) ∈ m := by
  obtain ⟨nm, tgt, ctl, par, v⟩ := g
  simp only [remapGate, bind_eq_ok] at h
  obtain ⟨t, ht, h⟩ := h
  obtain ⟨rfl, hm⟩ := mapList_eq_ok hσ ht
  -- `if g.control:` is false for `None` and for `[]`, and then the control stays as it is
  rcases ctl with _ | _ | ⟨c, cs⟩
  · cases h; exact ⟨rfl, by simpa [Gate.qubits] using hm⟩
  · cases h; exact ⟨rfl, by simpa [Gate.qubits] using hm⟩
  · simp only [bind_eq_ok, pure_eq_ok] at h
    obtain ⟨c', hc, rfl⟩ := h
    obtain ⟨rfl, hmc⟩ := mapList_eq_ok hσ hc
    exact ⟨rfl, fun q hq => (List.mem_append.mp hq).elim (hm q) (hmc q)⟩

theorem remapGates_eq_ok {gs gs' : List Gate} (h : remapGates m gs = .ok gs') :
    gs' = gs.map (Gate.relabel σ) ∧ ∀ g ∈ gs, ∀ q ∈ g.qubits, (q, σ q) ∈ m := by
  induction gs generalizing gs' with
  | nil => cases h; simp
  | cons g gs ih =>
    simp only [remapGates, bind_eq_ok, pure_eq_ok] at h
    obtain ⟨a, ha, b, hb, rfl⟩ := h
    obtain ⟨rfl, hm⟩ := ih hb
    obtain ⟨rfl, hg⟩ := remapGate_eq_ok hσ ha
    exact ⟨rfl, List.forall_mem_cons.mpr ⟨hg, hm⟩⟩

end Remap

namespace Circuit

/-- the list `trim_qubits` collects from the entangled groups; a qubit's new label is its position in it -/
def inUse (c : Circuit) : List Nat := c.entangledIndices.foldl (fun acc s => s.foldl setInsert acc) []

/-- `trim_qubits` relabels by the position in `inUse` -/
theorem trimQubits_eq_ok {c r : Circuit} {σ : Nat → Nat} (hσ : ∀ q q', mapIdx c.inUse.zipIdx q = .ok q' → σ q = q')
    (h : c.trimQubits = .ok r) :
    r = { c with gates := c.gates.map (Gate.relabel σ), indices := List.range c.inUse.length } ∧
      ∀ g ∈ c.gates, ∀ q ∈ g.qubits, σ q < c.inUse.length := by
  simp only [trimQubits, bind_eq_ok, pure_eq_ok] at h
  obtain ⟨gs, hgs, rfl⟩ := h
  obtain ⟨rfl, hm⟩ := remapGates_eq_ok hσ hgs
  exact ⟨rfl, fun g hg q hq => (List.mem_zipIdx' (hm g hg q hq)).1⟩

/-- `reindex_qubits` relabels the i-th qubit index by the i-th new index -/
theorem reindexQubits_eq_ok {c r : Circuit} {newIdx : List Nat} {σ : Nat → Nat}
    (hσ : ∀ q q', mapIdx (c.indices.zip newIdx) q = .ok q' → σ q = q') (h : c.reindexQubits newIdx = .ok r) :
    r = { c with gates := c.gates.map (Gate.relabel σ), indices := setOfList newIdx } ∧
      ∀ g ∈ c.gates, ∀ q ∈ g.qubits, σ q ∈ newIdx := by
  unfold reindexQubits at h
  split at h
  · cases h
  · simp only [bind_eq_ok, pure_eq_ok] at h
    obtain ⟨gs, hgs, rfl⟩ := h
    obtain ⟨rfl, hm⟩ := remapGates_eq_ok hσ hgs
    exact ⟨rfl, fun g hg q hq => (List.of_mem_zip (hm g hg q hq)).2⟩

theorem inverseGates_cons_eq_ok {g : Gate} {gs gs' : List Gate} :
    inverseGates (g :: gs) = .ok gs' ↔ ∃ gi rest, g.inverse = some gi ∧ inverseGates gs = .ok rest ∧ gs' = gi :: rest := by
  cases h : g.inverse <;> cases h' : inverseGates gs <;>
    simp [inverseGates, h, h', bind, Except.bind, pure, Except.pure, eq_comm]

theorem firstGroup_eq_findIdx? (g : Gate) (k : Nat) (ent : List (List Nat)) :
    firstGroup g k ent = (ent.findIdx? fun s => g.qubits.any fun q => s.contains q).map (· + k) := by
  induction ent generalizing k with
  | nil => rfl
  | cons s rest ih =>
    rw [firstGroup, List.findIdx?_cons, ih]
    split <;> simp [Function.comp_def, Nat.add_comm, Nat.add_left_comm]

theorem placeGate_eq_ok {ent : List (List Nat)} {cs cs' : List Circuit} {g : Gate} (h : placeGate ent cs g = .ok cs') :
    (∃ j c c', firstGroup g 0 ent = some j ∧ cs[j]? = some c ∧ c.addGate g = .ok c' ∧ cs' = cs.set j c') ∨
      (cs' = cs ∧ ∀ j, firstGroup g 0 ent = some j → cs[j]? = none) := by
  unfold placeGate at h
  split at h
  · rename_i j hj
    split at h
    · rename_i c hc
      split at h
      · rename_i c' hc'; cases h; exact .inl ⟨j, c, c', hj, hc, hc', rfl⟩
      · cases h
    · cases h; exact .inr ⟨rfl, fun j' hj' => by cases hj.symm.trans hj'; assumption⟩
  · cases h; exact .inr ⟨rfl, fun j' hj' => by simp_all⟩

/-- the two ways `mergeStep` succeeds: the gate is recorded, or it is folded into the gate `g0` at `i0`; the
    conditions of the second are those the code tests, in its order -/
theorem mergeStep_cases {eqv : Gate → Gate → Bool} {w : Nat} {st st' : MergeSt} {gate : Gate}
    (h : mergeStep eqv w st gate = .ok st') :
    st' = st.record gate ∨ ∃ g0 gtl i0 itl p,
      (gate.qubits.map st.lastOf).any (·.isNone) = false ∧
      (gate.qubits.map st.lastOf).filterMap (fun p => p.bind (fun i => st.out[i]?)) = g0 :: gtl ∧
      gate.qubits.map st.lastOf = some i0 :: itl ∧
      (∀ gg ∈ g0 :: gtl, eqv gg g0 = true) ∧
      rotMergeSet.contains gate.name = true ∧ gate.name = g0.name ∧ gate.target = g0.target ∧
      gate.control = g0.control ∧ addParam g0.param gate.param = .ok p ∧
      st' = { st with out := st.out.set! i0 { g0 with isVar := g0.isVar || gate.isVar, param := p } } := by
  unfold mergeStep at h
  simp only at h
  split at h
  · cases h
  split at h
  · exact .inl (by cases h; rfl)
  rename_i hnone
  split at h
  · rename_i g0 gtl i0 itl hpg hpv
    split at h
    · rename_i hall
      split at h
      · rename_i hcond
        split at h
        · rename_i p hp
          simp only [Bool.and_eq_true, beq_iff_eq] at hcond
          obtain ⟨⟨⟨hn, hname⟩, ht⟩, hc⟩ := hcond
          exact .inr ⟨g0, gtl, i0, itl, p, by simpa using hnone, hpg, hpv, fun gg hgg => List.all_eq_true.mp hall gg (hpg ▸ hgg),
            hn, hname, ht, hc, hp, by cases h; rfl⟩
        · cases h
      · exact .inl (by cases h; rfl)
    · exact .inl (by cases h; rfl)
  · exact .inl (by cases h; rfl)

theorem removeSmallWith_ok {isSmall : Gate → Bool} {c r : Circuit} {rq : Bool}
    (h : removeSmallWith isSmall c rq = .ok r) :
    ∃ n, ofGates (c.gates.filter (fun g => !(rotSmallSet.contains g.name && isSmall g))) n = .ok r := by
  cases rq <;> exact ⟨_, h⟩

theorem mergeRotationsWith_ok {eqv : Gate → Gate → Bool} {c r : Circuit} (h : mergeRotationsWith eqv c = .ok r) :
    ∃ st, c.gates.foldlM (mergeStep eqv c.width) { out := #[], last := [] } = .ok st ∧
      ofGates st.out.toList Option.none = .ok r :=
  bind_eq_ok.mp h

theorem removeRedundantWith_ok {eqv : Gate → Gate → Bool} {c r : Circuit} {rq : Bool}
    (h : removeRedundantWith eqv c rq = .ok r) :
    ∃ stk removed n,
      (c.gates.zipIdx.map (fun (g, i) => (i, g))).foldlM (rrStep eqv c.gates c.width) ([], []) = .ok (stk, removed) ∧
      ofGates ((c.gates.zipIdx.filter (fun (_, i) => !removed.contains i)).map (·.1)) n = .ok r := by
  obtain ⟨⟨stk, removed⟩, h1, h2⟩ := bind_eq_ok.mp h
  cases rq <;> exact ⟨stk, removed, _, h1, h2⟩

/-- what every round keeps, the loop keeps: the loop returns `cOld` or the result of a round on `cOld`; `cNew`, the circuit
    of the round before, only feeds the stopping test -/
theorem simplifyWith_loop_ind (P : Circuit → Prop) (eqv : Gate → Gate → Bool) (isSmall : Gate → Bool)
    (maxCycles : Nat) (rq : Bool)
    (hround : ∀ c m s r, P c → mergeRotationsWith eqv c = .ok m → removeSmallWith isSmall m rq = .ok s →
      removeRedundantWith eqv s rq = .ok r → P r) :
    ∀ (fuel i : Nat) (cOld cNew r : Circuit), P cOld →
      simplifyWith.loop eqv isSmall maxCycles rq fuel i cOld cNew = .ok r → P r := by
  intro fuel
  induction fuel with
  | zero => intro i cOld cNew r ho h; cases h; exact ho
  | succ n ih =>
    intro i cOld cNew r ho h
    simp only [simplifyWith.loop] at h
    split at h
    · obtain ⟨m, hm, h⟩ := bind_eq_ok.mp h
      obtain ⟨s, hs, h⟩ := bind_eq_ok.mp h
      obtain ⟨rr, hrr, h⟩ := bind_eq_ok.mp h
      exact ih _ _ _ _ (hround _ _ _ _ ho hm hs hrr) h
    · cases h; exact ho

end Circuit
end Tangelo
