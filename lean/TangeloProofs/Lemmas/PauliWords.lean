import TangeloModel.Measure
import TangeloProofs.Lemmas.Isometry
import TangeloProofs.Lemmas.Commute
/-!
`wordOps F w` applies the matrix `F p` to qubit `q` for every letter `(q, p)` of a Pauli word.  For a word `w` with
distinct qubits inside the register and basis rotations `B p` with `B p† · Z · B p = p`:
`⟨B_w φ | Z_w B_w ψ⟩ = ⟨φ | P_w ψ⟩` — the expectation value read off the measurement-basis frequencies by the parity
rule is the overlap `⟨ψ|P_w|ψ⟩`.
-/
namespace Tangelo
open Finset

variable {R : Type} [CommRing R]

/-- first entry applied first -/
def wordOps (F : Pauli → M2 R) (w : PWord) (ψ : State R) : State R :=
  w.foldl (fun acc qp => app1 (F qp.2) qp.1 acc) ψ

theorem wordOps_cons (F : Pauli → M2 R) (q : Nat) (p : Pauli) (w : PWord) (ψ : State R) :
    wordOps F ((q, p) :: w) ψ = wordOps F w (app1 (F p) q ψ) := rfl

theorem app1_wordOps_comm (F : Pauli → M2 R) (m : M2 R) (q : Nat) (w : PWord) (hq : q ∉ w.map (·.1)) (ψ : State R) :
    app1 m q (wordOps F w ψ) = wordOps F w (app1 m q ψ) :=
  foldl_comm_of_forall _ (app1 m q) w
    (fun qp h φ => app1_comm m (F qp.2) q qp.1 (fun e => hq (e ▸ List.mem_map_of_mem h)) φ) ψ

/-- a list of gates, one or none per letter (none: `F` of the letter acts as the identity), acts as the word `F` -/
theorem semOps_filterMap_word (k : Consts R) (g : Nat × Pauli → Option Op) (F : Pauli → M2 R)
    (h : ∀ qp ψ, (g qp).elim ψ (fun o => o.sem k ψ) = app1 (F qp.2) qp.1 ψ) (w : PWord) (ψ : State R) :
    semOps k (w.filterMap g) ψ = wordOps F w ψ := by
  induction w generalizing ψ with
  | nil => rfl
  | cons qp w ih =>
    rw [wordOps_cons, ← h, List.filterMap_cons]
    cases g qp with
    | none => exact ih ψ
    | some o => exact ih (o.sem k ψ)

def pauliMat (k : Consts R) : Pauli → M2 R
  | .X => baseMatrix k .X 0
  | .Y => baseMatrix k .Y 0
  | .Z => baseMatrix k .Z 0

/-- −1 to the number of letters of the word whose qubit is set in `x` -/
def paritySign (w : PWord) (x : Bits) : R := w.foldl (fun s qp => if x qp.1 then -s else s) 1

theorem paritySign_fold (w : PWord) (x : Bits) (s : R) :
    w.foldl (fun s qp => if x qp.1 then -s else s) s = s * paritySign (R := R) w x := by
  rw [paritySign, ← List.foldl_hom (s * ·) (g₂ := fun s qp => if x qp.1 then -s else s), mul_one]
  intro t qp
  split
  · exact (mul_neg s t).symm
  · rfl

theorem paritySign_cons (q : Nat) (p : Pauli) (w : PWord) (x : Bits) :
    paritySign (R := R) ((q, p) :: w) x = (if x q then -1 else 1) * paritySign (R := R) w x :=
  paritySign_fold w x _

theorem zWord_sign (k : Consts R) (w : PWord) (ψ : State R) (x : Bits) :
    wordOps (fun _ => baseMatrix k .Z 0) w ψ x = paritySign (R := R) w x * ψ x := by
  induction w generalizing ψ with
  | nil => exact (one_mul _).symm
  | cons qp w ih =>
    obtain ⟨q, p⟩ := qp
    rw [wordOps_cons, ih, app1_Z, paritySign_cons]
    ring

variable [StarRing R]

/-- basis rotations `B` are right when `B p† · Z · B p = p` -/
def RotOk (k : Consts R) (B : Pauli → M2 R) : Prop :=
  ∀ p, (M2.adj (B p)).mul ((baseMatrix k .Z 0).mul (B p)) = pauliMat k p

/-- sesquilinear form of the frequency route: rotate both states into the basis `B` of the word and apply `M` letter
    by letter — the result is the matrix element of the word of `B†·M·B` (measuring: `M = Z`, `B†·Z·B` the Pauli letter) -/
theorem meas_basis_identity (n : Nat) (B M P : Pauli → M2 R) (hB : ∀ p, (M2.adj (B p)).mul ((M p).mul (B p)) = P p)
    (w : PWord) (hnd : (w.map (·.1)).Nodup) (hlt : ∀ qp ∈ w, qp.1 < n) (φ ψ : State R) :
    inner n (wordOps B w φ) (wordOps M w (wordOps B w ψ)) = inner n φ (wordOps P w ψ) := by
  induction w generalizing φ ψ with
  | nil => rfl
  | cons qp w ih =>
    obtain ⟨q, p⟩ := qp
    obtain ⟨hq, hnd⟩ := List.nodup_cons.mp hnd
    -- pull the first letter's matrices out of the words (distinct qubits), then across the inner product
    rw [wordOps_cons, wordOps_cons, wordOps_cons, wordOps_cons, app1_wordOps_comm B (M p) q w hq,
      ih hnd (fun qp h => hlt qp (List.mem_cons_of_mem _ h)), inner_app1_left n (B p) q (hlt (q, p) List.mem_cons_self),
      app1_wordOps_comm P (M2.adj (B p)) q w hq, app1_app1 (M p) (B p), app1_app1, hB p]

/-- frequency route = overlap: Σₓ (−1)^{|x ∧ mask|} |(B_w ψ)(x)|² = ⟨ψ| P_w |ψ⟩ -/
theorem parity_rule_eq_overlap (k : Consts R) (n : Nat) (B : Pauli → M2 R) (hB : RotOk k B)
    (w : PWord) (hnd : (w.map (·.1)).Nodup) (hlt : ∀ qp ∈ w, qp.1 < n) (ψ : State R) :
    ∑ i ∈ range (2 ^ n), paritySign (R := R) w (bitsOf i) * wt (wordOps B w ψ (bitsOf i))
      = inner n ψ (wordOps (pauliMat k) w ψ) := by
  rw [← meas_basis_identity n B _ _ hB w hnd hlt ψ ψ]
  unfold inner
  apply Finset.sum_congr rfl
  intro i _
  rw [zWord_sign]
  simp only [wt]; ring

end Tangelo
