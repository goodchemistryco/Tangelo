import TangeloModel.Num
import TangeloProofs.Attr
import Mathlib.Tactic.Ring
import Mathlib.Algebra.Ring.Basic
import Mathlib.Algebra.Star.Basic
import Mathlib.Algebra.Order.Ring.Rat

/-! `Cyc` (the number type the driver executes) is a commutative ring with an
involutive ring automorphism `conj`; so every theorem proved for an arbitrary
`[CommRing R]` applies to what the driver computes. -/
namespace Tangelo.Cyc

/-! The operations component by component, `@[simp]` for whoever computes on components. The ring axioms below do not
use them: they go through the `cyc` set. -/
@[simp] theorem add_c0 (a b : Cyc) : (a + b).c0 = a.c0 + b.c0 := rfl
@[simp] theorem add_c1 (a b : Cyc) : (a + b).c1 = a.c1 + b.c1 := rfl
@[simp] theorem add_c2 (a b : Cyc) : (a + b).c2 = a.c2 + b.c2 := rfl
@[simp] theorem add_c3 (a b : Cyc) : (a + b).c3 = a.c3 + b.c3 := rfl
@[simp] theorem add_c4 (a b : Cyc) : (a + b).c4 = a.c4 + b.c4 := rfl
@[simp] theorem add_c5 (a b : Cyc) : (a + b).c5 = a.c5 + b.c5 := rfl
@[simp] theorem add_c6 (a b : Cyc) : (a + b).c6 = a.c6 + b.c6 := rfl
@[simp] theorem add_c7 (a b : Cyc) : (a + b).c7 = a.c7 + b.c7 := rfl
@[simp] theorem neg_c0 (a : Cyc) : (-a).c0 = -a.c0 := rfl
@[simp] theorem neg_c1 (a : Cyc) : (-a).c1 = -a.c1 := rfl
@[simp] theorem neg_c2 (a : Cyc) : (-a).c2 = -a.c2 := rfl
@[simp] theorem neg_c3 (a : Cyc) : (-a).c3 = -a.c3 := rfl
@[simp] theorem neg_c4 (a : Cyc) : (-a).c4 = -a.c4 := rfl
@[simp] theorem neg_c5 (a : Cyc) : (-a).c5 = -a.c5 := rfl
@[simp] theorem neg_c6 (a : Cyc) : (-a).c6 = -a.c6 := rfl
@[simp] theorem neg_c7 (a : Cyc) : (-a).c7 = -a.c7 := rfl
@[simp] theorem sub_c0 (a b : Cyc) : (a - b).c0 = a.c0 - b.c0 := rfl
@[simp] theorem sub_c1 (a b : Cyc) : (a - b).c1 = a.c1 - b.c1 := rfl
@[simp] theorem sub_c2 (a b : Cyc) : (a - b).c2 = a.c2 - b.c2 := rfl
@[simp] theorem sub_c3 (a b : Cyc) : (a - b).c3 = a.c3 - b.c3 := rfl
@[simp] theorem sub_c4 (a b : Cyc) : (a - b).c4 = a.c4 - b.c4 := rfl
@[simp] theorem sub_c5 (a b : Cyc) : (a - b).c5 = a.c5 - b.c5 := rfl
@[simp] theorem sub_c6 (a b : Cyc) : (a - b).c6 = a.c6 - b.c6 := rfl
@[simp] theorem sub_c7 (a b : Cyc) : (a - b).c7 = a.c7 - b.c7 := rfl
@[simp] theorem zero_c0 : (0 : Cyc).c0 = 0 := rfl
@[simp] theorem zero_c1 : (0 : Cyc).c1 = 0 := rfl
@[simp] theorem zero_c2 : (0 : Cyc).c2 = 0 := rfl
@[simp] theorem zero_c3 : (0 : Cyc).c3 = 0 := rfl
@[simp] theorem zero_c4 : (0 : Cyc).c4 = 0 := rfl
@[simp] theorem zero_c5 : (0 : Cyc).c5 = 0 := rfl
@[simp] theorem zero_c6 : (0 : Cyc).c6 = 0 := rfl
@[simp] theorem zero_c7 : (0 : Cyc).c7 = 0 := rfl
@[simp] theorem one_c0 : (1 : Cyc).c0 = 1 := rfl
@[simp] theorem one_c1 : (1 : Cyc).c1 = 0 := rfl
@[simp] theorem one_c2 : (1 : Cyc).c2 = 0 := rfl
@[simp] theorem one_c3 : (1 : Cyc).c3 = 0 := rfl
@[simp] theorem one_c4 : (1 : Cyc).c4 = 0 := rfl
@[simp] theorem one_c5 : (1 : Cyc).c5 = 0 := rfl
@[simp] theorem one_c6 : (1 : Cyc).c6 = 0 := rfl
@[simp] theorem one_c7 : (1 : Cyc).c7 = 0 := rfl
@[simp] theorem mul_c0 (a b : Cyc) : (a * b).c0 = (mul a b).c0 := rfl
@[simp] theorem mul_c1 (a b : Cyc) : (a * b).c1 = (mul a b).c1 := rfl
@[simp] theorem mul_c2 (a b : Cyc) : (a * b).c2 = (mul a b).c2 := rfl
@[simp] theorem mul_c3 (a b : Cyc) : (a * b).c3 = (mul a b).c3 := rfl
@[simp] theorem mul_c4 (a b : Cyc) : (a * b).c4 = (mul a b).c4 := rfl
@[simp] theorem mul_c5 (a b : Cyc) : (a * b).c5 = (mul a b).c5 := rfl
@[simp] theorem mul_c6 (a b : Cyc) : (a * b).c6 = (mul a b).c6 := rfl
@[simp] theorem mul_c7 (a b : Cyc) : (a * b).c7 = (mul a b).c7 := rfl

attribute [cyc] add_def sub_def mul_def zero_def one_def add sub mul ofRat conj

/-! The polynomial identities are proved before the instance: `mul_one`, `mul_zero` and `right_distrib` follow from
them by commutativity, and a large proof term is dearer to elaborate inside a structure instance than in a theorem of
its own. `cases` names the coefficients (`ring` is quicker on variables than on projections `x.c0`),
`simp only [cyc, mk.injEq]` unfolds the two sides once and splits the equation between the two `mk`s; after `ext` every
component would unfold both sides again. -/
protected theorem mul_comm (x y : Cyc) : x * y = y * x := by
  cases x; cases y
  simp only [cyc, mk.injEq]
  and_intros <;> ring
protected theorem left_distrib (x y z : Cyc) : x * (y + z) = x * y + x * z := by
  cases x; cases y; cases z
  simp only [cyc, mk.injEq]
  and_intros <;> ring
protected theorem one_mul (x : Cyc) : 1 * x = x := by
  cases x
  simp only [cyc, mk.injEq]
  and_intros <;> ring
protected theorem zero_mul (x : Cyc) : 0 * x = 0 := by
  cases x
  simp only [cyc, mk.injEq]
  and_intros <;> ring
protected theorem mul_assoc (x y z : Cyc) : x * y * z = x * (y * z) := by
  cases x; cases y; cases z
  simp only [cyc, mk.injEq]
  and_intros <;> ring

instance : CommRing Cyc where
  add_assoc x y z := by ext <;> exact Rat.add_assoc _ _ _
  zero_add x := by ext <;> exact Rat.zero_add _
  add_zero x := by ext <;> exact Rat.add_zero _
  add_comm x y := by ext <;> exact Rat.add_comm _ _
  neg_add_cancel x := by ext <;> exact Rat.neg_add_cancel _
  sub_eq_add_neg x y := by ext <;> exact Rat.sub_eq_add_neg _ _
  mul_assoc x y z := by rw [Cyc.mul_assoc]
  one_mul x := by rw [Cyc.one_mul]
  mul_one x := by rw [Cyc.mul_comm, Cyc.one_mul]
  left_distrib x y z := by rw [Cyc.left_distrib]
  right_distrib x y z := by rw [Cyc.mul_comm, Cyc.left_distrib, Cyc.mul_comm x, Cyc.mul_comm y]
  mul_comm x y := by rw [Cyc.mul_comm]
  zero_mul x := by rw [Cyc.zero_mul]
  mul_zero x := by rw [Cyc.mul_comm, Cyc.zero_mul]
  nsmul := nsmulRec
  zsmul := zsmulRec

theorem conj_conj (a : Cyc) : conj (conj a) = a := by cases a; simp only [cyc, neg_neg]
theorem conj_add (a b : Cyc) : conj (a + b) = conj a + conj b := by cases a; cases b; simp only [cyc, neg_add]
theorem conj_mul (a b : Cyc) : conj (a * b) = conj a * conj b := by
  cases a; cases b
  simp only [cyc, mk.injEq]
  and_intros <;> ring

instance : StarRing Cyc where
  star := conj
  star_involutive := conj_conj
  star_mul a b := by rw [mul_comm]; exact conj_mul b a
  star_add := conj_add

theorem star_def (a : Cyc) : star a = conj a := rfl
attribute [cyc] star_def

/-! closed identities between the constants: the kernel evaluates both sides (`2 * x` as `x + x`: the numeral `2` of
the ring structure is slow to evaluate) -/
theorem I_mul_I : I * I = -1 := by decide +kernel
theorem rsqrt2_sq : 2 * (rsqrt2 * rsqrt2) = 1 := by rw [two_mul]; decide +kernel
theorem two_half : (2 : Cyc) * half = 1 := by rw [two_mul]; decide +kernel
theorem zeta_pow_four : zeta * zeta * zeta * zeta = I := by decide +kernel
theorem star_I : star I = -I := by decide +kernel
theorem star_zeta_mul : star zeta * zeta = 1 := by decide +kernel

end Tangelo.Cyc
