import TangeloProofs.Attr
import TangeloProofs.CycEval
import TangeloProofs.CycLaws
import TangeloProofs.CycRing
import TangeloProofs.Lemmas.BasisChange
import TangeloProofs.Lemmas.CircuitInv
import TangeloProofs.Lemmas.CircuitShape
import TangeloProofs.Lemmas.Commute
import TangeloProofs.Lemmas.Counts
import TangeloProofs.Lemmas.GateOps
import TangeloProofs.Lemmas.Isometry
import TangeloProofs.Lemmas.ListSum
import TangeloProofs.Lemmas.MeasRefines
import TangeloProofs.Lemmas.OpInverse
import TangeloProofs.Lemmas.PauliWords
import TangeloProofs.Lemmas.Prelude
import TangeloProofs.Lemmas.Register
import TangeloProofs.Lemmas.SemBasic
import TangeloProofs.Lemmas.SimRefines
import TangeloProofs.Props.C01
import TangeloProofs.Props.C02
import TangeloProofs.Props.C03
import TangeloProofs.Props.C04
import TangeloProofs.Props.C05
import TangeloProofs.Props.C06
import TangeloProofs.Props.C07
import TangeloProofs.Props.C08
import TangeloProofs.Props.C09
import TangeloProofs.Props.C10
import TangeloProofs.Props.C11
import TangeloProofs.Props.C12
import TangeloProofs.Props.C13
import TangeloProofs.Props.C14
import TangeloProofs.Props.C15
import TangeloProofs.Props.C16
import TangeloProofs.Props.C17
import TangeloProofs.Props.C18
import TangeloProofs.Props.C19
import TangeloProofs.Props.C20
